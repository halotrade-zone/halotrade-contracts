/-
C10 — proofs: `assert_max_spread` honours `max_spread` and `belief_price`.

No `linarith` below.  `Mathlib.Tactic.Linarith` is imported for what it carries: the dot notation of Mathlib's order
lemmas (`h.le` for `h : a < b`, `h.trans`), and the `Monoid` structure of `ℕ`, through which the powers `10 ^ k` in the
statements of `norm_correct` and `norm_ok_iff` elaborate (through core's `instPowNat` without it): those statements
change if the import is dropped.
-/
import Halo.Proofs.Basic
import Halo.Formulas
import Halo.Spec
import Mathlib.Tactic.Linarith

namespace Halo.C10

/-! No primitive fails with `.guard`, so a `.guard` out of `assertMaxSpread` can only come from its own
comparison with `max_spread`. -/

open Halo.CallSites (NG)

theorem pow10u64_ne_guard (k : Nat) : Cw.pow10u64 k ≠ .error .guard := NG.ite (.ok _) (.err nofun)
theorem checkedMul_ne_guard (a b : Nat) : Cw.checkedMul a b ≠ .error .guard := NG.ite (.ok _) (.err nofun)
theorem u256_mul_ne_guard (a b : Nat) : u256.mul a b ≠ .error .guard := NG.ite (.ok _) (.err nofun)
theorem u256_div_ne_guard (a b : Nat) : u256.div a b ≠ .error .guard := NG.ite (.err nofun) (.ok _)
theorem u256_add_ne_guard (a b : Nat) : u256.add a b ≠ .error .guard := NG.ite (.ok _) (.err nofun)
theorem uint_sub_ne_guard (a b : Nat) : Uint.sub a b ≠ .error .guard := NG.ite (.ok _) (.err nofun)
theorem uint_add_ne_guard (a b : Nat) : Uint.add a b ≠ .error .guard := u256_add_ne_guard a b

theorem mulRatio_ne_guard (u n d : Nat) : Uint.mulRatio u n d ≠ .error .guard :=
  NG.ite (.err nofun) (.bind (u256_mul_ne_guard _ _) fun _ => u256_div_ne_guard _ _)

theorem fromRatio_ne_guard (n d : Nat) : Dec.fromRatio n d ≠ .error .guard := mulRatio_ne_guard n E d

theorem divDec_ne_guard (u d : Nat) : Uint.divDec u d ≠ .error .guard :=
  NG.ite (.err nofun) (.ite (.ok _) (mulRatio_ne_guard _ _ _))

theorem normSpread_ne_guard (offer ret spread od rd : Nat) :
    normSpread offer ret spread od rd ≠ .error .guard :=
  NG.ite (.bind (pow10u64_ne_guard _) fun _ => .bind (checkedMul_ne_guard _ _) fun _ =>
      .bind (checkedMul_ne_guard _ _) fun _ => .pure _)
    (.ite (.bind (pow10u64_ne_guard _) fun _ => .bind (checkedMul_ne_guard _ _) fun _ => .pure _) (.ok _))

/-- One of `rd - od`, `od - rd` is `0`, so the side that is left alone is scaled by `10 ^ 0`: all three
branches compute the same triple, and differ only in which products are checked. -/
theorem normSpread_ok {offer ret spread od rd : Nat} {t : Nat × Nat × Nat} :
    normSpread offer ret spread od rd = .ok t ↔
      ((rd < od → 10 ^ (od - rd) < L ∧ ret * 10 ^ (od - rd) < W ∧ spread * 10 ^ (od - rd) < W) ∧
       (od < rd → 10 ^ (rd - od) < L ∧ offer * 10 ^ (rd - od) < W)) ∧
      (offer * 10 ^ (rd - od), ret * 10 ^ (od - rd), spread * 10 ^ (od - rd)) = t := by
  unfold normSpread
  split
  · rename_i h
    simp only [bind_ok_iff, Cw.pow10u64_ok, Cw.checkedMul_ok, pure_ok_iff, and_assoc, exists_and_left,
      exists_eq_left, h, Nat.lt_asymm h, Nat.sub_eq_zero_of_le h.le, Nat.pow_zero, Nat.mul_one,
      true_imp_iff, false_imp_iff, and_true]
  · split
    · rename_i h
      simp only [bind_ok_iff, Cw.pow10u64_ok, Cw.checkedMul_ok, pure_ok_iff, and_assoc, exists_and_left,
        exists_eq_left, h, Nat.lt_asymm h, Nat.sub_eq_zero_of_le h.le, Nat.pow_zero, Nat.mul_one,
        true_imp_iff, false_imp_iff, true_and]
    · rename_i h1 h2
      simp only [Except.ok.injEq, h1, h2, Nat.sub_eq_zero_of_le (Nat.le_of_not_lt h1),
        Nat.sub_eq_zero_of_le (Nat.le_of_not_lt h2), Nat.pow_zero, Nat.mul_one, false_imp_iff, true_and]

theorem norm_correct {offer ret spread od rd o r s : Nat}
    (h : normSpread offer ret spread od rd = .ok (o, r, s)) :
    (rd < od → o = offer ∧ r = ret * 10 ^ (od - rd) ∧ s = spread * 10 ^ (od - rd)) ∧
    (od < rd → o = offer * 10 ^ (rd - od) ∧ r = ret ∧ s = spread) ∧
    (od = rd → o = offer ∧ r = ret ∧ s = spread) := by
  obtain ⟨rfl, rfl, rfl⟩ := Prod.mk.inj (normSpread_ok.mp h).2
  refine ⟨fun h => ?_, fun h => ?_, fun h => ?_⟩
  · simp only [Nat.sub_eq_zero_of_le h.le, Nat.pow_zero, Nat.mul_one, and_self]
  · simp only [Nat.sub_eq_zero_of_le h.le, Nat.pow_zero, Nat.mul_one, and_self]
  · simp only [h, Nat.sub_self, Nat.pow_zero, Nat.mul_one, and_self]

theorem norm_ok_iff {offer ret spread od rd : Nat} :
    (∃ t, normSpread offer ret spread od rd = .ok t) ↔
      (rd < od → 10 ^ (od - rd) < L ∧ ret * 10 ^ (od - rd) < W ∧ spread * 10 ^ (od - rd) < W) ∧
      (od < rd → 10 ^ (rd - od) < L ∧ offer * 10 ^ (rd - od) < W) :=
  ⟨fun ⟨_, h⟩ => (normSpread_ok.mp h).1, fun h => ⟨_, normSpread_ok.mpr ⟨h, rfl⟩⟩⟩

/-! The arithmetic of the belief branch holds at any scale `e`.  `X` stands for the expected return
`⌊o·e/p⌋`; the guard compares the shortfall ratio `⌊(X - r)·e/X⌋` with `ms`, and `shortfall_le_iff` says what
that comparison means without the subtraction and the division. -/

theorem shortfall_le_iff {X r ms e : Nat} (hX : 0 < X) (hr : r ≤ X) (hms : ms < e) :
    (X - r) * e / X ≤ ms ↔ X * (e - ms - 1) < r * e := by
  -- `(X - r) * e < (ms + 1) * X`; split `X * e` once along `X = (X - r) + r` and once along
  -- `e = (e - ms - 1) + (ms + 1)`, and what is left is linear in the products
  have h1 : (X - r) * e + r * e = X * e := by rw [← Nat.add_mul, Nat.sub_add_cancel hr]
  have h2 : X * (e - ms - 1) + (ms + 1) * X = X * e := by
    rw [Nat.mul_comm (ms + 1), ← Nat.mul_add]; congr 1; omega
  rw [← Nat.lt_add_one_iff, Nat.div_lt_iff_lt_mul hX]
  omega

theorem of_shortfall_le {X r ms e : Nat} (hX : 0 < X) (hms : ms < e)
    (hacc : r < X → (X - r) * e / X ≤ ms) : X * (e - ms - 1) < r * e := by
  by_cases hr : r < X
  · exact (shortfall_le_iff hX hr.le hms).mp (hacc hr)
  · calc X * (e - ms - 1) < X * e := Nat.mul_lt_mul_of_pos_left (by omega) hX
      _ ≤ r * e := Nat.mul_le_mul_right _ (Nat.le_of_not_lt hr)

theorem of_lt_shortfall {X r ms e : Nat} (hr : r < X) (hg : ms < (X - r) * e / X) :
    ms < e ∧ r * e < X * (e - ms) := by
  have hX : 0 < X := Nat.zero_lt_of_lt hr
  have hms : ms < e :=
    Nat.lt_of_lt_of_le hg (Nat.div_le_of_le_mul (Nat.mul_le_mul_right e (Nat.sub_le X r)))
  exact ⟨hms, Nat.lt_of_le_of_lt
    (Nat.le_of_not_lt (mt (shortfall_le_iff hX hr.le hms).mpr (Nat.not_le_of_lt hg)))
    (Nat.mul_lt_mul_of_pos_left (by omega) hX)⟩

theorem belief_sound_arith {o r p ms e : Nat} (hp : 0 < p) (h1 : p < o * e) (h2 : ms < e)
    (hacc : r < o * e / p → (o * e / p - r) * e / (o * e / p) ≤ ms) :
    (o * e - p) * (e - ms - 1) < r * p * e := by
  have hX : o * e - p < o * e / p * p := by
    have := Nat.lt_mul_div_succ (o * e) hp
    rw [Nat.mul_add_one, Nat.mul_comm p] at this; omega
  calc (o * e - p) * (e - ms - 1) ≤ o * e / p * p * (e - ms - 1) := Nat.mul_le_mul_right _ hX.le
    _ = p * (o * e / p * (e - ms - 1)) := by rw [Nat.mul_comm _ p, Nat.mul_assoc]
    _ < p * (r * e) :=
      Nat.mul_lt_mul_of_pos_left (of_shortfall_le (Nat.div_pos h1.le hp) h2 hacc) hp
    _ = r * p * e := by rw [Nat.mul_comm r p, Nat.mul_assoc]

theorem belief_complete_arith {o r p ms e : Nat} (hp : 0 < p)
    (hr : r < o * e / p) (hg : ms < (o * e / p - r) * e / (o * e / p)) :
    ms ≤ e ∧ r * p < o * (e - ms) := by
  obtain ⟨hms, h⟩ := of_lt_shortfall hr hg
  refine ⟨hms.le, Nat.lt_of_mul_lt_mul_right (a := e) ?_⟩
  calc r * p * e = p * (r * e) := by rw [Nat.mul_comm r p, Nat.mul_assoc]
    _ < p * (o * e / p * (e - ms)) := Nat.mul_lt_mul_of_pos_left h hp
    _ = o * e / p * p * (e - ms) := by rw [Nat.mul_comm _ p, Nat.mul_assoc]
    _ ≤ o * e * (e - ms) := Nat.mul_le_mul_right _ (Nat.div_mul_le_self _ _)
    _ = o * (e - ms) * e := by rw [Nat.mul_assoc, Nat.mul_comm e, Nat.mul_assoc]

/-! What acceptance and the guard error mean for the normalised amounts; the remaining conjuncts say that
no intermediate value leaves 256 bits. -/

theorem spread_ok_iff {ms offer ret spread od rd o r s : Nat}
    (hn : normSpread offer ret spread od rd = .ok (o, r, s)) :
    assertMaxSpread none (some ms) offer ret spread od rd = .ok () ↔
      r + s < U ∧ r + s ≠ 0 ∧ s * E < U ∧ s * E / (r + s) ≤ ms := by
  simp only [assertMaxSpread, hn, bind_ok_iff, Except.ok.injEq, exists_eq_left', Uint.add_ok,
    Dec.fromRatio_ok, ite_eq_right_iff, reduceCtorEq, imp_false, Nat.not_lt, and_assoc,
    exists_and_left, exists_eq_left]

theorem spread_guard_iff {ms offer ret spread od rd o r s : Nat}
    (hn : normSpread offer ret spread od rd = .ok (o, r, s)) :
    assertMaxSpread none (some ms) offer ret spread od rd = .error .guard ↔
      r + s < U ∧ r + s ≠ 0 ∧ s * E < U ∧ ms < s * E / (r + s) := by
  simp only [assertMaxSpread, hn, bind_error_iff, Except.ok.injEq, exists_eq_left', reduceCtorEq,
    uint_add_ne_guard, fromRatio_ne_guard, false_or, Uint.add_ok, Dec.fromRatio_ok, ite_eq_left_iff,
    imp_false, Decidable.not_not, and_assoc, exists_and_left, exists_eq_left]

theorem belief_ok_iff {p ms offer ret spread od rd o r s : Nat}
    (hn : normSpread offer ret spread od rd = .ok (o, r, s)) :
    assertMaxSpread (some p) (some ms) offer ret spread od rd = .ok () ↔
      p ≠ 0 ∧ o * E < U ∧ (r < o * E / p →
        (o * E / p - r) * E < U ∧ (o * E / p - r) * E / (o * E / p) ≤ ms) := by
  simp only [assertMaxSpread, hn, bind_ok_iff, Except.ok.injEq, exists_eq_left', Uint.divDec_ok,
    Uint.sub_ok, Dec.fromRatio_ok, ite_eq_right_iff, reduceCtorEq, imp_false, Nat.not_lt, and_assoc,
    exists_and_left, exists_eq_left]
  -- the subtraction and the division by `o * E / p` cannot fail once `r < o * E / p`
  exact and_congr_right fun _ => and_congr_right fun _ => forall_congr' fun hr =>
    ⟨fun h => h.2.2, fun h => ⟨hr.le, Nat.ne_zero_of_lt hr, h⟩⟩

theorem belief_guard_iff {p ms offer ret spread od rd o r s : Nat}
    (hn : normSpread offer ret spread od rd = .ok (o, r, s)) :
    assertMaxSpread (some p) (some ms) offer ret spread od rd = .error .guard ↔
      p ≠ 0 ∧ o * E < U ∧ r < o * E / p ∧
        (o * E / p - r) * E < U ∧ ms < (o * E / p - r) * E / (o * E / p) := by
  simp only [assertMaxSpread, hn, bind_error_iff, Except.ok.injEq, exists_eq_left', reduceCtorEq,
    divDec_ne_guard, uint_sub_ne_guard, fromRatio_ne_guard, false_or, Uint.divDec_ok, Uint.sub_ok,
    Dec.fromRatio_ok, ite_eq_iff, and_false, or_false, and_true, and_assoc, exists_and_left,
    exists_eq_left]
  exact and_congr_right fun _ => and_congr_right fun _ => and_congr_right fun hr =>
    ⟨fun h => h.2.2, fun h => ⟨hr.le, Nat.ne_zero_of_lt hr, h⟩⟩

theorem belief_sound {p ms offer ret spread od rd o r s : Nat}
    (hn : normSpread offer ret spread od rd = .ok (o, r, s))
    (h : assertMaxSpread (some p) (some ms) offer ret spread od rd = .ok ()) :
    Spec.c10BeliefSound o r p ms = true := by
  obtain ⟨hp, -, h⟩ := (belief_ok_iff hn).mp h
  simp only [Spec.c10BeliefSound, Bool.or_eq_true, Bool.not_eq_true', ← Bool.not_eq_true,
    Bool.and_eq_true, decide_eq_true_eq]
  exact Decidable.not_or_of_imp fun hc =>
    belief_sound_arith (Nat.pos_of_ne_zero hp) hc.1 hc.2 fun hr => (h hr).2

theorem belief_complete {p ms offer ret spread od rd o r s : Nat}
    (hn : normSpread offer ret spread od rd = .ok (o, r, s))
    (h : assertMaxSpread (some p) (some ms) offer ret spread od rd = .error .guard) :
    Spec.c10BeliefComplete o r p ms = true := by
  obtain ⟨hp, -, hr, -, hg⟩ := (belief_guard_iff hn).mp h
  simp only [Spec.c10BeliefComplete, Bool.and_eq_true, decide_eq_true_eq]
  exact belief_complete_arith (Nat.pos_of_ne_zero hp) hr hg

theorem spread_sound {ms offer ret spread od rd o r s : Nat}
    (hn : normSpread offer ret spread od rd = .ok (o, r, s))
    (h : assertMaxSpread none (some ms) offer ret spread od rd = .ok ()) :
    Spec.c10SpreadSound r s ms = true := by
  obtain ⟨-, ht, -, h⟩ := (spread_ok_iff hn).mp h
  simp only [Spec.c10SpreadSound, decide_eq_true_eq]
  exact (Nat.div_lt_iff_lt_mul (Nat.pos_of_ne_zero ht)).mp (Nat.lt_add_one_of_le h)

theorem spread_complete {ms offer ret spread od rd o r s : Nat}
    (hn : normSpread offer ret spread od rd = .ok (o, r, s))
    (h : assertMaxSpread none (some ms) offer ret spread od rd = .error .guard) :
    Spec.c10SpreadComplete r s ms = true := by
  obtain ⟨-, ht, -, h⟩ := (spread_guard_iff hn).mp h
  have ht := Nat.pos_of_ne_zero ht
  simp only [Spec.c10SpreadComplete, decide_eq_true_eq]
  exact Nat.lt_of_lt_of_le (Nat.mul_lt_mul_of_pos_right (Nat.lt_add_one ms) ht)
    ((Nat.le_div_iff_mul_le ht).mp h)

theorem no_limit_no_guard {belief : Option Nat} {offer ret spread od rd : Nat} :
    assertMaxSpread belief none offer ret spread od rd ≠ .error .guard :=
  NG.bind (normSpread_ne_guard _ _ _ _ _) fun _ => nofun

theorem guard_needs_norm {belief ms : Option Nat} {offer ret spread od rd : Nat}
    (h : assertMaxSpread belief ms offer ret spread od rd = .error .guard) :
    ∃ t, normSpread offer ret spread od rd = .ok t :=
  (CallSites.bind_guard h (normSpread_ne_guard _ _ _ _ _)).imp fun _ => And.left

theorem spread_mono_limit {belief : Option Nat} {ms ms' offer ret spread od rd : Nat}
    (h : assertMaxSpread belief (some ms) offer ret spread od rd = .ok ()) (hm : ms ≤ ms') :
    assertMaxSpread belief (some ms') offer ret spread od rd = .ok () := by
  obtain ⟨⟨o, r, s⟩, hn, -⟩ := (bind_ok_iff _ _ _).mp h
  cases belief with
  | none =>
    rw [spread_ok_iff hn] at h ⊢
    exact ⟨h.1, h.2.1, h.2.2.1, h.2.2.2.trans hm⟩
  | some p =>
    rw [belief_ok_iff hn] at h ⊢
    exact ⟨h.1, h.2.1, fun hr => ⟨(h.2.2 hr).1, (h.2.2 hr).2.trans hm⟩⟩

end Halo.C10
