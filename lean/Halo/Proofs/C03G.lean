/-
C03 / C20 from genesis — proofs.  `PairInv` is established by the factory's `CreatePair`
(`created_pair_inv`) and preserved along every history of external actors' operations (`pairInv_run`,
in-window swaps included); hence the history theorem from creation (`history_from_creation`) and the
liveness of withdrawals after any history (`withdraw_live_after_history`, `withdraw_live_from_creation`); also, resting
on `pairInv_run`, `Reach.reserved_unit_forever` (C05).
Statements live in `Halo/Props/C03G.lean`, `Halo/Props/C20W.lean` and `Halo/Props/C05R.lean`.
-/
import Halo.Inv
import Halo.Proofs.C03W
import Halo.Proofs.Liquidity
import Halo.Proofs.RegOK

namespace Halo.C03G

theorem created_pair_inv {name : Asset → String} {w w' : World} {s : Nat} {f : List (Nat × Nat)}
    {a0 a1 : Asset} {req : Requirements} {c ld : Option Nat} {np nl : Nat} {out : Out}
    (hv : ValidOp w (.factory s f (.createPair a0 a1 req c ld np nl))) (hn : NewAddrs w np nl)
    (h : exec name w (.factory s f (.createPair a0 a1 req c ld np nl)) = .ok (w', out)) :
    PairInv w' np a0 a1 nl ∧ supply w' nl = 0 := by
  obtain ⟨_, htl, _⟩ := hv.fresh s f a0 a1 req c ld np nl rfl
  obtain ⟨w0, h0, h1⟩ := facExec_ok (exec_ok h).1
  have sm := attach_same h0
  have htok := attach_tok h0
  obtain ⟨d0, d1, k⟩ := facCreatePair_ok h1
  have hw' := k.world
  -- the new world: the pair at `np`, its empty LP token at `nl`, everything else as after the attached funds
  have hP := k.pair_new
  have hT := k.tok_new
  have hTo : ∀ t, t ≠ nl → w'.tok t = w.tok t := fun t ht => by rw [hw', ← htok]; exact if_neg ht
  have hr : w'.router = w.router := by rw [hw']; exact sm.router
  have hsup : supply w' nl = 0 := by simp only [supply, hT]
  -- a cw20 asset of the pair answered the factory's decimals query: it is live, hence not the new LP token
  have hlive : ∀ (a : Asset) (d t : Nat), assetDecimals w0 a = .ok d → a = .token t → t ≠ nl ∧ (w'.tok t).isSome := by
    rintro a d t hd rfl
    have hl : (w0.tok t).isSome := RegOKP.live_of_decimals hd
    rw [htok] at hl
    have ht : t ≠ nl := fun e => by rw [e, htl] at hl; cases hl
    exact ⟨ht, by rw [hTo t ht]; exact hl⟩
  refine ⟨?_, hsup⟩
  exact
    { pair := ⟨_, hP, rfl, rfl, rfl⟩
      distinct := k.ne
      notLp0 := fun e => (hlive a0 d0 nl k.dec0 e).1 rfl
      notLp1 := fun e => (hlive a1 d1 nl k.dec1 e).1 rfl
      lpLive := ⟨_, hT, rfl⟩
      live0 := fun t e => (hlive a0 d0 t k.dec0 e).2
      live1 := fun t e => (hlive a1 d1 t k.dec1 e).2
      sumOK := Liquidity.tokSumOK_of (Bounded.congr (fun x => by simp only [bal, hT]) (Bounded.zero 0)) hsup
      reserved := by
        rw [hsup]
        exact fun hpos => absurd hpos (Nat.lt_irrefl 0)
      lpNoPair := by
        rw [hw']
        show (if nl = np then _ else w0.pair nl).isNone = true
        rw [if_neg (Ne.symm hn.ne), sm.pair, hn.pairFree]
        rfl
      lpNotRouter := by rw [hr]; exact hn.nlNotRouter
      pNotRouter := by rw [hr]; exact hn.npNotRouter
      noAllow := by
        -- the new LP token starts without allowances; on the existing tokens the fresh addresses have granted none
        intro t T hT' sp
        by_cases ht : t = nl
        · subst ht
          cases hT.symm.trans hT'
          exact ⟨rfl, rfl⟩
        · rw [hTo t ht] at hT'
          exact hn.noAllow t T hT' sp }

theorem pairInv_run {name : Asset → String} {p : Nat} {a0 a1 : Asset} {lp : Nat} (ops : List Op) (w : World)
    (hinv : PairInv w p a0 a1 lp) (hv : ValidRun name w ops) :
    PairInv (run name w ops) p a0 a1 lp :=
  (C03W.pairInv_pos_run ops w hinv hv).1

theorem history_from_creation {name : Asset → String} {w w1 : World} {s : Nat} {f : List (Nat × Nat)}
    {a0 a1 : Asset} {req : Requirements} {c ld : Option Nat} {np nl : Nat} {out : Out}
    (hv : ValidOp w (.factory s f (.createPair a0 a1 req c ld np nl))) (hn : NewAddrs w np nl)
    (h : exec name w (.factory s f (.createPair a0 a1 req c ld np nl)) = .ok (w1, out))
    (ops₁ ops₂ : List Op) (hv₁ : ValidRun name w1 ops₁) (hv₂ : ValidRun name (run name w1 ops₁) ops₂)
    (hnw : NoWindowRun name np (run name w1 ops₁) ops₂) :
    NonDecr (viewOf (run name w1 ops₁) np a0 a1 nl) (viewOf (run name (run name w1 ops₁) ops₂) np a0 a1 nl) :=
  (C03W.history_nondecr ops₂ (run name w1 ops₁)
    (pairInv_run ops₁ w1 (created_pair_inv hv hn h).1 hv₁) hv₂ hnw).2

/-! ### C20 over histories -/

theorem withdraw_live_inv {name : Asset → String} {w : World} {p : Nat} {a0 a1 : Asset} {lp : Nat}
    (hI : PairInv w p a0 a1 lp) {h a : Nat} (hhp : h ≠ p) (hvalid : w.badAddr h = false) (ha1 : 1 ≤ a)
    (hab : a ≤ bal w (.token lp) h)
    (hr0 : bal w a0 p < W) (hr1 : bal w a1 p < W) (hSW : supply w lp < W)
    (hent0 : (bal w a0 p + 2 * E) * supply w lp ≤ bal w a0 p * a * E)
    (hent1 : (bal w a1 p + 2 * E) * supply w lp ≤ bal w a1 p * a * E) :
    ∃ w' x0 x1, exec name w (.tokSend lp h p a .withdraw) = .ok (w', .withdraw x0 x1) ∧ 2 ≤ x0 ∧ 2 ≤ x1 := by
  obtain ⟨P, hP, e0, e1, e2⟩ := hI.pair
  subst e0 e1 e2
  obtain ⟨T, hT, _⟩ := hI.lpLive
  obtain ⟨w', x0, x1, hh, b0, b1⟩ := Liquidity.withdraw_live hP hhp hvalid hI.distinct hI.notLp0 hI.notLp1
    (by rw [hT]; rfl) hI.live0 hI.live1 ha1 hab (Nat.le_trans hab (Liquidity.tokSumOK_holder hI.sumOK))
    hr0 hr1 hSW hent0 hent1
  refine ⟨w', x0, x1, ?_, b0, b1⟩
  simp only [exec]
  unfold tokSend
  rw [if_pos (by rw [hP]; rfl)]
  exact hh

theorem withdraw_live_after_history {name : Asset → String} {p : Nat} {a0 a1 : Asset} {lp : Nat}
    (ops : List Op) (w : World) (hinv : PairInv w p a0 a1 lp) (hv : ValidRun name w ops)
    {h a : Nat} (hhp : h ≠ p) (hvalid : w.badAddr h = false) (ha1 : 1 ≤ a)
    (hab : a ≤ bal (run name w ops) (.token lp) h)
    (hr0 : bal (run name w ops) a0 p < W) (hr1 : bal (run name w ops) a1 p < W)
    (hSW : supply (run name w ops) lp < W)
    (hent0 : (bal (run name w ops) a0 p + 2 * E) * supply (run name w ops) lp ≤ bal (run name w ops) a0 p * a * E)
    (hent1 : (bal (run name w ops) a1 p + 2 * E) * supply (run name w ops) lp ≤ bal (run name w ops) a1 p * a * E) :
    ∃ w' x0 x1, exec name (run name w ops) (.tokSend lp h p a .withdraw) = .ok (w', .withdraw x0 x1) ∧
      2 ≤ x0 ∧ 2 ≤ x1 :=
  withdraw_live_inv (pairInv_run ops w hinv hv) hhp (by rw [RegOKP.badAddr_run]; exact hvalid) ha1 hab hr0 hr1 hSW hent0 hent1

theorem withdraw_live_from_creation {name : Asset → String} {w w1 : World} {s : Nat} {f : List (Nat × Nat)}
    {a0 a1 : Asset} {req : Requirements} {c ld : Option Nat} {np nl : Nat} {out : Out}
    (hv : ValidOp w (.factory s f (.createPair a0 a1 req c ld np nl))) (hn : NewAddrs w np nl)
    (hc : exec name w (.factory s f (.createPair a0 a1 req c ld np nl)) = .ok (w1, out))
    (ops : List Op) (hvr : ValidRun name w1 ops)
    {h a : Nat} (hhp : h ≠ np) (hvalid : w.badAddr h = false) (ha1 : 1 ≤ a)
    (hab : a ≤ bal (run name w1 ops) (.token nl) h)
    (hr0 : bal (run name w1 ops) a0 np < W) (hr1 : bal (run name w1 ops) a1 np < W)
    (hSW : supply (run name w1 ops) nl < W)
    (hent0 : (bal (run name w1 ops) a0 np + 2 * E) * supply (run name w1 ops) nl ≤ bal (run name w1 ops) a0 np * a * E)
    (hent1 : (bal (run name w1 ops) a1 np + 2 * E) * supply (run name w1 ops) nl ≤ bal (run name w1 ops) a1 np * a * E) :
    ∃ w' x0 x1, exec name (run name w1 ops) (.tokSend nl h np a .withdraw) = .ok (w', .withdraw x0 x1) ∧
      2 ≤ x0 ∧ 2 ≤ x1 :=
  withdraw_live_after_history ops w1 (created_pair_inv hv hn hc).1 hvr hhp (by rw [RegOKP.badAddr_exec hc]; exact hvalid) ha1 hab hr0 hr1 hSW hent0 hent1

end Halo.C03G

namespace Halo.Reach

/-- C05: the reserved unit is reserved forever -/
theorem reserved_unit_forever {name : Asset → String} {p : Nat} {a0 a1 : Asset} {lp : Nat} (ops : List Op)
    (w : World) (hinv : PairInv w p a0 a1 lp) (hv : ValidRun name w ops) (hpos : 0 < supply w lp) :
    1 ≤ bal (run name w ops) (.token lp) lp ∧ 0 < supply (run name w ops) lp := by
  have hpos' := C03W.supply_stays_positive ops w hinv hv hpos
  exact ⟨(C03G.pairInv_run ops w hinv hv).reserved hpos', hpos'⟩

end Halo.Reach
