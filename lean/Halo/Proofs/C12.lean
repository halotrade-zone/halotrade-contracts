/-
C12 — proofs: the reverse formula `compute_offer_amount` against its closed integer form and the
documented closed form `x·y/(y − ask/(1−c)) − x` (upper side exact direction, lower side within the
stated rounding).  Both bounds hold on every successful call (`reverse_le`, `reverse_ge`); the domain
hypothesis of the property statements only says where the real closed form is defined.
-/
import Halo.Proofs.Basic
import Halo.Formulas
import Halo.Spec
import Mathlib.Tactic.Ring

namespace Halo.C12

/-- inversion of a successful `computeOfferAmount`: every guard that matters and every result
that the C12 statements mention, in closed integer form. -/
theorem inversion {x y b c o s k : Nat}
    (h : computeOfferAmount x y b c = .ok (o, s, k)) :
    c < E ∧ b * (E * E / (E - c)) / E < y ∧
    o + x = x * y / (y - b * (E * E / (E - c)) / E) ∧
    k = b * (E * E / (E - c)) / E * c / E := by
  unfold computeOfferAmount at h
  simp only [bind_ok_iff] at h
  obtain ⟨cp, hcp, omc, homc, inv, hinv, t, ht, den, hden, o1, ho1, offer, hoffer, bcd, hbcd,
    _, -, _, -, hrest⟩ := h
  -- the two branches of the spread differ only in `s`
  have hrest' : ∃ comm, Uint.mulDec bcd c = .ok comm ∧ toU128 offer = .ok o ∧
      toU128 comm = .ok k := by
    split at hrest <;>
    · simp only [bind_ok_iff, pure_ok_iff, Prod.mk.injEq] at hrest
      obtain ⟨_, -, comm, hcomm, _, ho', _, -, _, hk', rfl, -, rfl⟩ := hrest
      exact ⟨comm, hcomm, ho', hk'⟩
  obtain ⟨comm, hcomm, ho', hk'⟩ := hrest'
  obtain ⟨hcpU, rfl⟩ := Uint.mul_ok.mp hcp
  obtain ⟨-, rfl⟩ := Dec.sub_ok.mp homc
  obtain ⟨hω, -, rfl⟩ := Dec.div_ok.mp hinv
  obtain ⟨-, rfl⟩ := Uint.mulDec_ok.mp ht
  obtain ⟨-, rfl⟩ := Uint.sub_ok.mp hden
  obtain ⟨hden0, -, rfl⟩ := Uint.mulRatio_ok.mp ho1
  obtain ⟨hxo, rfl⟩ := Uint.sub_ok.mp hoffer
  obtain ⟨-, rfl⟩ := Uint.mulDec_ok.mp hbcd
  obtain ⟨hcommU, rfl⟩ := Uint.mulDec_ok.mp hcomm
  rw [Nat.one_mul] at hxo ho'
  have hoU : x * y / (y - b * (E * E / (E - c)) / E) - x < U :=
    Nat.lt_of_le_of_lt (Nat.sub_le _ _) (Nat.div_lt_of_lt hcpU)
  obtain ⟨-, rfl⟩ := (toU128_ok hoU).mp ho'
  obtain ⟨-, rfl⟩ := (toU128_ok (Nat.div_lt_of_lt hcommU)).mp hk'
  exact ⟨Nat.lt_of_sub_ne_zero hω, Nat.lt_of_sub_ne_zero hden0, Nat.sub_add_cancel hxo, rfl⟩

theorem reverse_closed_form {x y b c o s k : Nat}
    (h : computeOfferAmount x y b c = .ok (o, s, k)) :
    c < E ∧ b * (E * E / (E - c)) / E < y ∧
    o = x * y / (y - b * (E * E / (E - c)) / E) - x := by
  obtain ⟨h1, h2, h3, _⟩ := inversion h
  exact ⟨h1, h2, Nat.eq_sub_of_add_eq h3⟩

theorem reverse_commission {x y b c o s k : Nat}
    (h : computeOfferAmount x y b c = .ok (o, s, k)) :
    k = b * (E * E / (E - c)) / E * c / E :=
  (inversion h).2.2.2

/-- the quote `o + x` is `x·y/(y − t)` rounded down, `t` the rounded `ask/(1−γ)`: all that the bounds below use of it -/
theorem offer_bracket {x y b c o s k : Nat} (h : computeOfferAmount x y b c = .ok (o, s, k)) :
    (o + x) * (y - b * (E * E / (E - c)) / E) ≤ x * y ∧
    x * y < (o + x + 1) * (y - b * (E * E / (E - c)) / E) := by
  obtain ⟨-, hty, he, -⟩ := inversion h
  rw [he]
  exact div_round (x * y) (Nat.sub_pos_of_lt hty)

/-- The two floors in the rounded `t = ⌊b·⌊e²/ω⌋/e⌋` of `b·e/ω` (the code's `ask/(1−γ)`, `ω = e − c`):
`t ≤ b·e/ω`, and `b·e/ω < t + 1 + b/e` in the tight integer form: the slack `b + ω` is what the two
strict floor inequalities leave. -/
theorem floors (b : Nat) {ω e : Nat} (hω : 0 < ω) (he : 0 < e) :
    b * (e * e / ω) / e * ω ≤ b * e ∧
    b * e * e + b + ω ≤ (b * (e * e / ω) / e + 1) * e * ω + b * ω := by
  obtain ⟨hi1, hi2⟩ := div_round (e * e) hω
  obtain ⟨ht1, ht2⟩ := div_round (b * (e * e / ω)) he
  exact ⟨two_floors_le he hi1 ht1, Nat.mul_right_comm _ ω e ▸ two_floors_gap hi2 ht2⟩

/-- upper side: a quote below `x·y/(y − t)` with `t ≤ B/ω` is below `x·y/(y − B/ω)`
(cross-multiplied; the subtractions truncate, so no `t ≤ y` is needed) -/
theorem upper_core {x y ω t o1 B : Nat} (ht : t * ω ≤ B) (ho : o1 * (y - t) ≤ x * y) :
    o1 * (y * ω - B) ≤ x * y * ω :=
  calc o1 * (y * ω - B) ≤ o1 * ((y - t) * ω) :=
        Nat.mul_le_mul_left _ (by rw [Nat.sub_mul]; exact Nat.sub_le_sub_left ht _)
    _ = o1 * (y - t) * ω := (Nat.mul_assoc ..).symm
    _ ≤ x * y * ω := Nat.mul_le_mul_right _ ho

/-- lower side, the denominators: the code's `y − t`, scaled by `e·ω`, stays below the perturbed
denominator `y − b·e/ω + b/e + 1` of `Spec.c12ReverseLower` -/
theorem den_gap {y b ω e t : Nat} (hg : b * e * e + b + ω ≤ (t + 1) * e * ω + b * ω)
    (hω : 0 < ω) (ht : t ≤ y) :
    (y - t) * e * ω + b * e * e < y * e * ω + b * ω + e * ω := by
  have e1 : y * e * ω = (y - t) * e * ω + t * e * ω := by
    rw [← Nat.add_mul, ← Nat.add_mul, Nat.sub_add_cancel ht]
  rw [Nat.add_mul, Nat.add_mul, Nat.one_mul] at hg
  omega

/-- lower side: a quote above `x·y/d − 1` stays above `x·y/d' − 1` for a larger denominator `d'`;
here `d'·e·ω = D − b·e·e`, with the subtraction kept on the left as in `Spec.c12ReverseLower` -/
theorem lower_core {x y b ω e d D o1 : Nat} (hd : d * e * ω + b * e * e < D)
    (ho : x * y < (o1 + 1) * d) (he : 0 < e) (hω : 0 < ω) :
    x * y * e * ω + (o1 + 1) * b * e * e < (o1 + 1) * D :=
  calc x * y * e * ω + (o1 + 1) * b * e * e
      = x * y * (e * ω) + (o1 + 1) * b * e * e := by rw [Nat.mul_assoc (x * y)]
    _ < (o1 + 1) * d * (e * ω) + (o1 + 1) * b * e * e :=
        Nat.add_lt_add_right (Nat.mul_lt_mul_of_pos_right ho (Nat.mul_pos he hω)) _
    _ = (o1 + 1) * (d * e * ω + b * e * e) := by ring
    _ ≤ (o1 + 1) * D := Nat.mul_le_mul_left _ hd.le

theorem reverse_le {x y b c o s k : Nat} (h : computeOfferAmount x y b c = .ok (o, s, k)) :
    Spec.c12Reverse x y b c o = true := by
  rw [Spec.c12Reverse, decide_eq_true_eq]
  exact upper_core (floors b (Nat.sub_pos_of_lt (inversion h).1) E_pos).1 (offer_bracket h).1

theorem reverse_ge {x y b c o s k : Nat} (h : computeOfferAmount x y b c = .ok (o, s, k)) :
    Spec.c12ReverseLower x y b c o = true := by
  obtain ⟨hc, hty, -, -⟩ := inversion h
  have hω := Nat.sub_pos_of_lt hc
  rw [Spec.c12ReverseLower, decide_eq_true_eq]
  exact lower_core (den_gap (floors b hω E_pos).2 hω hty.le) (offer_bracket h).2 E_pos hω

/-- never above the documented closed form on its domain (`c < 1`, `ask/(1−c) < y`);
the domain is where that form is defined, the bound itself does not use it -/
theorem reverse_le_closed_form {x y b c o s k : Nat}
    (h : computeOfferAmount x y b c = .ok (o, s, k)) (_hd : Spec.c12Domain y b c = true) :
    Spec.c12Reverse x y b c o = true :=
  reverse_le h

theorem reverse_ge_closed_form {x y b c o s k : Nat}
    (h : computeOfferAmount x y b c = .ok (o, s, k)) (_hd : Spec.c12Domain y b c = true) :
    Spec.c12ReverseLower x y b c o = true :=
  reverse_ge h

theorem reverse_mono {x y b b' c c' o s k o' s' k' : Nat}
    (h : computeOfferAmount x y b c = .ok (o, s, k))
    (h' : computeOfferAmount x y b' c' = .ok (o', s', k')) (hb : b ≤ b') (hc : c ≤ c') :
    o ≤ o' := by
  obtain ⟨-, -, he, -⟩ := inversion h
  obtain ⟨hc', hlt', he', -⟩ := inversion h'
  -- a larger ask or rate is a larger rounded `ask/(1−γ)`, hence a smaller denominator
  have ht : b * (E * E / (E - c)) / E ≤ b' * (E * E / (E - c')) / E :=
    Nat.div_le_div_right (Nat.mul_le_mul hb
      (Nat.div_le_div_left (Nat.sub_le_sub_left hc _) (Nat.sub_pos_of_lt hc')))
  refine Nat.le_of_add_le_add_right (b := x) ?_
  rw [he, he']
  exact Nat.div_le_div_left (Nat.sub_le_sub_left ht _) (Nat.sub_pos_of_lt hlt')

theorem reverse_mono_ask {x y b b' c o s k o' s' k' : Nat}
    (h : computeOfferAmount x y b c = .ok (o, s, k))
    (h' : computeOfferAmount x y b' c = .ok (o', s', k')) (hb : b ≤ b') : o ≤ o' :=
  reverse_mono h h' hb (Nat.le_refl c)

end Halo.C12
