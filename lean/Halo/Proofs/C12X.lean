/-
C12X — proofs: bounds on the reverse formula `compute_offer_amount` that hold on EVERY successful
call (no `Spec.c12Domain` hypothesis), and the band `q < y ≤ ask/(1−γ)` in which the code returns
a quote although the documented real closed form `x·y/(y − ask/(1−γ)) − x` is undefined.
-/
import Halo.Proofs.C12
import Halo.Proofs.Rational

namespace Halo.C12X

/-- the rounded `ask/(1−γ)` used by the code: `⌊ask · ⌊E²/(E−c)⌋ / E⌋` -/
abbrev qR (b c : Nat) : Nat := b * (E * E / (E - c)) / E

theorem rounded_le {b c : Nat} (hc : c < E) : qR b c * (E - c) ≤ b * E :=
  (C12.floors b (Nat.sub_pos_of_lt hc) E_pos).1

theorem rounded_gap {b c : Nat} (hc : c < E) :
    b * E * E + b + (E - c) ≤ (qR b c + 1) * E * (E - c) + b * (E - c) :=
  (C12.floors b (Nat.sub_pos_of_lt hc) E_pos).2

theorem rounded_gap_lt {b c : Nat} (hc : c < E) :
    b * E * E < (qR b c + 1) * E * (E - c) + b * (E - c) := by
  have := rounded_gap (b := b) hc
  omega

theorem rounded_gap_div {b c : Nat} (hc : c < E) :
    b * E ≤ (qR b c + 1) * (E - c) + b * (E - c) / E := by
  have hg := rounded_gap_lt (b := b) hc
  -- `b·E − (q+1)(E−c) ≤ ⌊b(E−c)/E⌋` is `(b·E − (q+1)(E−c))·E ≤ b(E−c)`
  rw [← Nat.sub_le_iff_le_add', Nat.le_div_iff_mul_le E_pos, Nat.sub_mul, Nat.sub_le_iff_le_add']
  rw [Nat.mul_right_comm (qR b c + 1)] at hg
  exact hg.le

theorem reverse_exact {x y b c o s k : Nat}
    (h : computeOfferAmount x y b c = .ok (o, s, k)) :
    c < E ∧ qR b c < y ∧ o + x = x * y / (y - qR b c) :=
  let ⟨hc, hty, he, _⟩ := C12.inversion h
  ⟨hc, hty, he⟩

theorem reverse_lower_always {x y b c o s k : Nat}
    (h : computeOfferAmount x y b c = .ok (o, s, k)) :
    x * y < (o + x + 1) * (y - qR b c) ∧
    qR b c * (E - c) ≤ b * E ∧
    b * E * E + b + (E - c) ≤ (qR b c + 1) * E * (E - c) + b * (E - c) := by
  have hc := (reverse_exact h).1
  exact ⟨(C12.offer_bracket h).2, rounded_le hc, rounded_gap hc⟩

/-- the perturbed denominator `y − ask/(1−γ) + ask/E + 1` of `Spec.c12ReverseLower` is positive on
every successful call, in fact larger than the denominator `y − q ≥ 1` that the code uses
(so `Spec.c12ReverseLower` is not vacuous off the domain) -/
theorem perturbed_den_gt {x y b c o s k : Nat}
    (h : computeOfferAmount x y b c = .ok (o, s, k)) :
    (y - qR b c) * E * (E - c) + b * E * E <
      y * E * (E - c) + b * (E - c) + E * (E - c) :=
  let ⟨hc, hty, _⟩ := reverse_exact h
  C12.den_gap (rounded_gap hc) (Nat.sub_pos_of_lt hc) hty.le

theorem reverse_ge_closed_form_always {x y b c o s k : Nat}
    (h : computeOfferAmount x y b c = .ok (o, s, k)) :
    Spec.c12ReverseLower x y b c o = true :=
  C12.reverse_ge h

theorem reverse_upper_always {x y b c o s k : Nat}
    (h : computeOfferAmount x y b c = .ok (o, s, k)) :
    (o + x) * (y - qR b c) ≤ x * y :=
  (C12.offer_bracket h).1

theorem reverse_le_closed_form_always {x y b c o s k : Nat}
    (h : computeOfferAmount x y b c = .ok (o, s, k)) :
    Spec.c12Reverse x y b c o = true :=
  C12.reverse_le h

theorem band_characterisation {x y b c o s k : Nat}
    (h : computeOfferAmount x y b c = .ok (o, s, k)) (hnd : ¬ Spec.c12Domain y b c = true) :
    c < E ∧ qR b c < y ∧ y * (E - c) ≤ b * E ∧
    b * E * E + b + (E - c) ≤ y * E * (E - c) + b * (E - c) ∧
    b * E ≤ y * (E - c) + b * (E - c) / E ∧
    y * E * (E - c) + b + (E - c) ≤ (qR b c + 1) * E * (E - c) + b * (E - c) := by
  obtain ⟨hc, hty, _⟩ := reverse_exact h
  have hyb : y * (E - c) ≤ b * E := Nat.le_of_not_lt fun h => hnd (Rational.c12Domain_iff.2 ⟨hc, h⟩)
  -- `q + 1 ≤ y` on the left of the gap, `y(E−c) ≤ bE` on its right
  have m1 : (qR b c + 1) * E * (E - c) ≤ y * E * (E - c) :=
    Nat.mul_le_mul_right _ (Nat.mul_le_mul_right _ hty)
  have m2 : (qR b c + 1) * (E - c) ≤ y * (E - c) := Nat.mul_le_mul_right _ hty
  have m3 : y * E * (E - c) ≤ b * E * E := by
    rw [Nat.mul_right_comm y]
    exact Nat.mul_le_mul_right _ hyb
  exact ⟨hc, hty, hyb, (rounded_gap hc).trans (Nat.add_le_add_right m1 _),
    (rounded_gap_div hc).trans (Nat.add_le_add_right m2 _),
    (Nat.add_le_add_right (Nat.add_le_add_right m3 _) _).trans (rounded_gap hc)⟩

open Halo.Rational (cast_E_pos div_sub_lt_iff div_one_sub_div cast_sub_pos)

theorem lower_always_rat {x y q o : Nat} (hq : q < y) :
    x * y < (o + x + 1) * (y - q) ↔
      (x : ℚ) * y / ((y : ℚ) - q) - x - 1 < (o : ℚ) := by
  have hD : (0 : ℚ) < (y : ℚ) - q := cast_sub_pos hq
  rw [sub_sub, div_sub_lt_iff hD, ← add_assoc, ← Nat.cast_sub hq.le]
  norm_cast

theorem upper_always_rat {x y q o : Nat} (hq : q < y) :
    (o + x) * (y - q) ≤ x * y ↔
      (o : ℚ) ≤ (x : ℚ) * y / ((y : ℚ) - q) - x := by
  have hD : (0 : ℚ) < (y : ℚ) - q := cast_sub_pos hq
  rw [Rational.le_sub_iff_add_le, Rational.le_div_iff₀ hD, ← Nat.cast_sub hq.le]
  norm_cast

theorem le_ideal_rat {t b c : Nat} (hc : c < E) :
    t * (E - c) ≤ b * E ↔ (t : ℚ) ≤ (b : ℚ) / (1 - (c : ℚ) / E) := by
  have hω : (0 : ℚ) < (E : ℚ) - c := cast_sub_pos hc
  rw [div_one_sub_div cast_E_pos.ne', Rational.le_div_iff₀ hω, ← Nat.cast_sub hc.le]
  norm_cast

theorem lt_ideal_gap_rat {t b c : Nat} (hc : c < E) :
    b * E * E < t * E * (E - c) + b * (E - c) ↔
      (b : ℚ) / (1 - (c : ℚ) / E) < (t : ℚ) + (b : ℚ) / E := by
  have hω : (0 : ℚ) < (E : ℚ) - c := cast_sub_pos hc
  rw [div_one_sub_div cast_E_pos.ne', add_div' _ _ _ cast_E_pos.ne',
    Rational.div_lt_div_iff₀ hω cast_E_pos, add_mul, ← Nat.cast_sub hc.le]
  norm_cast

theorem not_domain_rat {y b c : Nat} (hc : c < E) :
    ¬ Spec.c12Domain y b c = true ↔ (y : ℚ) ≤ (b : ℚ) / (1 - (c : ℚ) / E) := by
  rw [← le_ideal_rat hc, Rational.c12Domain_iff, not_and, not_lt]
  exact ⟨fun h => h hc, fun h _ => h⟩

theorem rounded_gap_rat {b c : Nat} (hc : c < E) :
    (b : ℚ) / (1 - (c : ℚ) / E) < (qR b c : ℚ) + 1 + (b : ℚ) / E := by
  have := (lt_ideal_gap_rat hc).1 (rounded_gap_lt (b := b) hc)
  rwa [Nat.cast_add_one] at this

theorem reverse_bounds_rat {x y b c o s k : Nat}
    (h : computeOfferAmount x y b c = .ok (o, s, k)) :
    (c : ℚ) < E ∧ (qR b c : ℚ) < y ∧
    (x : ℚ) * y / ((y : ℚ) - qR b c) - x - 1 < (o : ℚ) ∧
    (o : ℚ) ≤ (x : ℚ) * y / ((y : ℚ) - qR b c) - x ∧
    (qR b c : ℚ) ≤ (b : ℚ) / (1 - (c : ℚ) / E) ∧
    (b : ℚ) / (1 - (c : ℚ) / E) < (qR b c : ℚ) + 1 + (b : ℚ) / E ∧
    (x : ℚ) * y / ((y : ℚ) - (b : ℚ) / (1 - (c : ℚ) / E) + (b : ℚ) / E + 1) - x - 1 < (o : ℚ) := by
  obtain ⟨hc, hty, _⟩ := reverse_exact h
  have hpos := Nat.lt_of_le_of_lt (Nat.le_add_left _ _) (perturbed_den_gt h)
  exact ⟨Nat.cast_lt.2 hc, Nat.cast_lt.2 hty,
    (lower_always_rat hty).1 (reverse_lower_always h).1,
    (upper_always_rat hty).1 (reverse_upper_always h),
    (le_ideal_rat hc).1 (rounded_le hc), rounded_gap_rat hc,
    (Rational.c12ReverseLower_rat_of_pos hc hpos).1 (C12.reverse_ge h)⟩

theorem band_rat {x y b c o s k : Nat}
    (h : computeOfferAmount x y b c = .ok (o, s, k)) (hnd : ¬ Spec.c12Domain y b c = true) :
    (qR b c : ℚ) < y ∧ (y : ℚ) ≤ (b : ℚ) / (1 - (c : ℚ) / E) ∧
    (b : ℚ) / (1 - (c : ℚ) / E) < (y : ℚ) + (b : ℚ) / E ∧
    (y : ℚ) - qR b c < 1 + (b : ℚ) / E := by
  obtain ⟨hc, hty, _⟩ := reverse_exact h
  have h2 := (not_domain_rat hc).1 hnd
  have h3 := rounded_gap_rat (b := b) hc
  have hq : (qR b c : ℚ) + 1 ≤ y := by exact_mod_cast hty
  exact ⟨Nat.cast_lt.2 hty, h2, h3.trans_le (add_le_add hq le_rfl),
    sub_lt_iff_lt_add.2 ((h2.trans_lt h3).trans_eq (add_rotate _ _ _))⟩

end Halo.C12X
