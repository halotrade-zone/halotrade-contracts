/-
Flows — a trace relation over the ledger primitives, finer than `C07.Moves`: `Tr S Mn N w w'` says that `w'`
is reached from `w` by ledger primitives whose *paying* accounts (bank / cw20 source, burner) lie in `S` and
whose mints are sent by contracts in `Mn`, interleaved with quiet steps that change no balance and no supply,
keep every cw20 contract with its minter, keep the router and every pair's assets and LP token, and create
pair contracts only at addresses in `N`.

  * consequences: `Tr.keep` (an account outside `S` never loses anything), `Tr.supply_le` (the supply of a token whose
    minter is outside `Mn` never grows), `Tr.stat`.  A `Tr` is made of runs of ledger primitives and quiet steps
    (`Tr.byLed`), so what holds along a run (`Led.keep`, `Led.supply_le`, `Led.kept`) carries over,
  * `exec_tr`: every successful operation at fresh addresses is such a trace out of its `Payer`s — its ledger
    primitives by `exec_split` (`Led.tr`), its configuration step as a quiet step (`cfgStep_tr`).
Core Lean only.
-/
import Halo.Inv
import Halo.Proofs.C07

namespace Halo.Flows

/-- contract states evolve benignly: cw20 contracts persist with their minter, the router is fixed, pairs keep
their assets and LP token, and pairs appear only at addresses in `N` -/
structure Stat (N : Nat → Prop) (w w' : World) : Prop where
  toks : TokKeep w w'
  router : w'.router = w.router
  pairSome : ∀ q P, w.pair q = some P → ∃ P', w'.pair q = some P' ∧ P'.a0 = P.a0 ∧ P'.a1 = P.a1 ∧ P'.lp = P.lp
  pairNone : ∀ q, ¬ N q → w.pair q = none → w'.pair q = none

theorem Stat.refl (N : Nat → Prop) (w : World) : Stat N w w :=
  ⟨TokKeep.refl w, rfl, fun _ P h => ⟨P, h, rfl, rfl, rfl⟩, fun _ _ h => h⟩

theorem Stat.trans {N : Nat → Prop} {a b c : World} (h1 : Stat N a b) (h2 : Stat N b c) : Stat N a c := by
  refine ⟨h1.toks.trans h2.toks, h2.router.trans h1.router, ?_, ?_⟩
  · intro q P hP
    obtain ⟨P1, hP1, e0, e1, e2⟩ := h1.pairSome q P hP
    obtain ⟨P2, hP2, f0, f1, f2⟩ := h2.pairSome q P1 hP1
    exact ⟨P2, hP2, f0.trans e0, f1.trans e1, f2.trans e2⟩
  · intro q hq h
    exact h2.pairNone q hq (h1.pairNone q hq h)

theorem _root_.Halo.LedgerOnly.stat {N : Nat → Prop} {w w' : World} (h : LedgerOnly w w') : Stat N w w' :=
  ⟨h.minters, h.router, fun q P hP => ⟨P, by rw [h.pair]; exact hP, rfl, rfl, rfl⟩,
    fun q _ hq => by rw [h.pair]; exact hq⟩

inductive Tr (S Mn N : Nat → Prop) : World → World → Prop
  | refl (w : World) : Tr S Mn N w w
  | trans {a b c : World} : Tr S Mn N a b → Tr S Mn N b c → Tr S Mn N a c
  | bank {w w' : World} {src dst d amt : Nat} :
      S src → bankMove1 w src dst d amt = .ok w' → Tr S Mn N w w'
  | xfer {w w' : World} {t src dst amt : Nat} :
      S src → tokTransfer w t src dst amt = .ok w' → Tr S Mn N w w'
  | xferFrom {w w' : World} {t sp owner dst amt : Nat} :
      S owner → tokTransferFrom w t sp owner dst amt = .ok w' → Tr S Mn N w w'
  | mint {w w' : World} {t sd dst amt : Nat} :
      Mn sd → tokMint w t sd dst amt = .ok w' → Tr S Mn N w w'
  | burn {w w' : World} {t sd amt : Nat} :
      S sd → tokBurn w t sd amt = .ok w' → Tr S Mn N w w'
  | incAllow {w w' : World} {t o sp amt : Nat} :
      tokIncAllow w t o sp amt = .ok w' → Tr S Mn N w w'
  | burnFrom {w w' : World} {t sp owner amt : Nat} :
      S owner → tokBurnFrom w t sp owner amt = .ok w' → Tr S Mn N w w'
  | decAllow {w w' : World} {t o sp amt : Nat} :
      tokDecAllow w t o sp amt = .ok w' → Tr S Mn N w w'
  | quiet {w w' : World} :
      (∀ a z, bal w' a z = bal w a z) → (∀ t, supply w' t = supply w t) → Stat N w w' → Tr S Mn N w w'

/-- the roles of a run in which only the accounts in `S` pay and only the contracts in `Mn` mint -/
def flowRoles (S Mn : Nat → Prop) : Roles := ⟨S, fun _ => True, Mn, fun _ => True, fun _ => True⟩

namespace Tr

variable {S Mn N : Nat → Prop} {w w' : World}

theorem static (hb : w'.bank = w.bank) (ht : w'.tok = w.tok) (hs : Stat N w w') : Tr S Mn N w w' :=
  .quiet (bal_of_eq hb ht) (supply_of_tok_eq ht) hs

/-- A `Tr` is made of runs of ledger primitives with the roles `flowRoles S Mn` and of quiet steps: what is reflexive and
transitive and holds across both holds across it.  (Motive as in `Led.byEffect`.) -/
theorem byLed {motive : (w w' : World) → Tr S Mn N w w' → Prop}
    (refl : ∀ w, motive w w (.refl w))
    (trans : ∀ {a b c : World} {h1 : Tr S Mn N a b} {h2 : Tr S Mn N b c},
      motive a b h1 → motive b c h2 → motive a c (h1.trans h2))
    (led : ∀ {w w' : World} {h : Tr S Mn N w w'}, Led (flowRoles S Mn) w w' → motive w w' h)
    (quiet : ∀ {w w' : World} {h : Tr S Mn N w w'}, (∀ a z, bal w' a z = bal w a z) → (∀ t, supply w' t = supply w t) →
      Stat N w w' → motive w w' h)
    (h : Tr S Mn N w w') : motive w w' h := by
  induction h with
  | refl w => exact refl w
  | trans _ _ ih1 ih2 => exact trans ih1 ih2
  | bank hs h => exact led (.bank hs trivial h)
  | xfer hs h => exact led (.xfer hs trivial h)
  | xferFrom hs h => exact led (.xferFrom hs trivial h)
  | mint hm h => exact led (.mint hm trivial trivial h)
  | burn hs h => exact led (.burn hs trivial h)
  | incAllow h => exact led (.incAllow trivial h)
  | burnFrom hs h => exact led (.burnFrom hs trivial h)
  | decAllow h => exact led (.decAllow trivial h)
  | quiet hb hs hst => exact quiet hb hs hst

theorem stat (h : Tr S Mn N w w') : Stat N w w' := by
  induction h using byLed with
  | refl w => exact Stat.refl _ _
  | trans ih1 ih2 => exact ih1.trans ih2
  | led h => exact h.kept.stat
  | quiet _ _ hs => exact hs

/-- an account outside `S` loses nothing -/
theorem keep (h : Tr S Mn N w w') : ∀ a z, ¬ S z → bal w a z ≤ bal w' a z := by
  induction h using byLed with
  | refl w => exact fun _ _ _ => Nat.le_refl _
  | trans ih1 ih2 => exact fun a z hz => Nat.le_trans (ih1 a z hz) (ih2 a z hz)
  | led h => exact fun a z hz => h.keep a hz
  | quiet hb _ _ => exact fun a z _ => Nat.le_of_eq (hb a z).symm

/-- the supply of a token whose minter is not among the minting contracts never grows -/
theorem supply_le (h : Tr S Mn N w w') {t m : Nat} (hm : ¬ Mn m) :
    (∃ T, w.tok t = some T ∧ T.minter = some m) → supply w' t ≤ supply w t := by
  induction h using byLed with
  | refl w => exact fun _ => Nat.le_refl _
  | @trans a b c h1 _ ih1 ih2 =>
    rintro ⟨T, hT, hTm⟩
    obtain ⟨T', hT', hm'⟩ := h1.stat.toks t T hT
    exact Nat.le_trans (ih2 ⟨T', hT', hm'.trans hTm⟩) (ih1 ⟨T, hT, hTm⟩)
  | led h => exact h.supply_le hm
  | quiet _ hs _ => exact fun _ => Nat.le_of_eq (hs t)

end Tr

/-- a run of ledger primitives, seen as flows: payers in `S`, minters in `Mn` -/
theorem _root_.Halo.Led.tr {R : Roles} {S Mn N : Nat → Prop} {w w' : World} (h : Led R w w')
    (hp : ∀ z, R.pay z → S z) (hm : ∀ z, R.mint z → Mn z) : Tr S Mn N w w' := by
  induction h with
  | refl w => exact .refl w
  | trans _ _ ih1 ih2 => exact .trans ih1 ih2
  | bank hs _ h => exact .bank (hp _ hs) h
  | xfer hs _ h => exact .xfer (hp _ hs) h
  | xferFrom hs _ h => exact .xferFrom (hp _ hs) h
  | mint hs _ _ h => exact .mint (hm _ hs) h
  | burn hs _ h => exact .burn (hp _ hs) h
  | incAllow _ h => exact .incAllow h
  | burnFrom hs _ h => exact .burnFrom (hp _ hs) h
  | decAllow _ h => exact .decAllow h

theorem _root_.Halo.Led.flow {S Mn N : Nat → Prop} {w w' : World} (h : Led (flowRoles S Mn) w w') : Tr S Mn N w w' :=
  h.tr (fun _ h => h) (fun _ h => h)

theorem attach_tr {N : Nat → Prop} {w w0 : World} {s c : Nat} {funds : List (Nat × Nat)}
    (h : attach w s c funds = .ok w0) : Tr (· = s) (fun _ => False) N w w0 :=
  (attach_led (R := flowRoles (· = s) (fun _ => False)) h rfl trivial).flow

theorem _root_.Halo.ConfigOnly.stat {N : Nat → Prop} {w w' : World} (h : ConfigOnly w w') : Stat N w w' where
  toks := tokKeep_of_eq h.tok
  router := h.router
  pairSome q P hP := by
    obtain ⟨da, db, h'⟩ := h.pairSome q P hP
    exact ⟨_, h', rfl, rfl, rfl⟩
  pairNone q _ hq := h.pairNone q hq

/-- the only address at which an operation may create a pair contract -/
def NewOf (op : Op) (q : Nat) : Prop :=
  ∃ s f a0 a1 req c ld nl, op = .factory s f (.createPair a0 a1 req c ld q nl)

theorem cfgStep_tr {S Mn : Nat → Prop} {w w' : World} {op : Op} (h : cfgStep w op = .ok w') (hfresh : FreshOK w op) :
    Tr S Mn (NewOf op) w w' := by
  obtain ⟨hb, hs, _⟩ := cfgStep_quiet h hfresh
  refine .quiet hb hs ?_
  rcases cfgStep_cases h with hd | ⟨s, f, a0, a1, req, c, ld, np, nl, P, reg, rfl, rfl⟩
  · exact hd.stat
  · obtain ⟨hfp, hft, _⟩ := hfresh _ _ _ _ _ _ _ _ _ rfl
    refine ⟨?_, rfl, ?_, ?_⟩
    · intro u U hU
      have hu : u ≠ nl := fun e => by rw [e, hft] at hU; cases hU
      exact ⟨U, (if_neg hu).trans hU, rfl⟩
    · intro q Q hQ
      have hq : q ≠ np := fun e => by rw [e, hfp] at hQ; cases hQ
      exact ⟨Q, (if_neg hq).trans hQ, rfl, rfl, rfl⟩
    · intro q hq hn
      have hqn : q ≠ np := fun e => hq ⟨s, f, a0, a1, req, c, ld, nl, by rw [e]⟩
      exact (if_neg hqn).trans hn

/-- every successful operation at fresh addresses is a flow out of its payers, minted by the pair a provision is
addressed to, with a pair contract appearing only where a `CreatePair` names it -/
theorem exec_tr {name : Asset → String} {w w' : World} {op : Op} {out : Out}
    (hf : FreshOK w op) (h : exec name w op = .ok (w', out)) : Tr (Payer w op) (MintOf op) (NewOf op) w w' := by
  obtain ⟨w0, hl, hc⟩ := exec_split h
  exact (hl.tr (fun _ hz => hz) (fun _ hz => hz)).trans (cfgStep_tr hc (hf.led hl))

theorem never_lose {name : Asset → String} {w w' : World} {op : Op} {out : Out}
    (hf : FreshOK w op) (h : exec name w op = .ok (w', out)) (a : Asset) (z : Nat)
    (hz : z ≠ actorOf op) (ho : z ∉ ownersOf op) (hp : w.pair z = none) (hr : z ≠ w.router) :
    bal w a z ≤ bal w' a z := by
  refine (exec_tr hf h).keep a z (fun hpay => ?_)
  rcases hpay.src h with h1 | h1 | h2 | h3
  · exact hz h1
  · exact ho h1
  · rw [hp] at h2; cases h2
  · exact hr h3

end Halo.Flows
