/-
The frame of a router route — proofs for `Halo/Props/C07R.lean`.

The route's hops are a `Led` run (`routerSwapOps_led`) whose payers and payees are, of the pair contracts, only those
that some hop of the route resolves to; the registry and the raw identifiers, which are all `facLookup` reads, are part
of `Same`, so the resolution of every hop may be taken in the world at entry; the frame is `Led.frame`.
Core Lean only.
-/
import Halo.Proofs.C07

namespace Halo.Bounds

/-- the accounts a route may touch: the actor `s`, the router, the recipient `rcv`, the pair contracts its hops resolve to -/
def RouteSet (w : World) (s rcv : Nat) (ops : List (Asset × Asset)) (z : Nat) : Prop :=
  z = s ∨ z = w.router ∨ z = rcv ∨ ∃ o a R, (o, a) ∈ ops ∧ facLookup w o a = some R ∧ R.pair = z

namespace RouteSet
variable {w : World} {s rcv : Nat} {ops : List (Asset × Asset)}

theorem actor : RouteSet w s rcv ops s := .inl rfl
theorem router : RouteSet w s rcv ops w.router := .inr (.inl rfl)
theorem recipient : RouteSet w s rcv ops rcv := .inr (.inr (.inl rfl))
theorem pair {o a : Asset} {R : Record} (hm : (o, a) ∈ ops) (hR : facLookup w o a = some R) :
    RouteSet w s rcv ops R.pair :=
  .inr (.inr (.inr ⟨o, a, R, hm, hR, rfl⟩))

end RouteSet

theorem not_routeSet {w : World} {s rcv z : Nat} {ops : List (Asset × Asset)} (hs : z ≠ s) (hr : z ≠ w.router)
    (hrcv : z ≠ rcv) (hp : ¬ ∃ o a R, (o, a) ∈ ops ∧ facLookup w o a = some R ∧ R.pair = z) :
    ¬ RouteSet w s rcv ops z := by
  rintro (e | e | e | e)
  · exact hs e
  · exact hr e
  · exact hrcv e
  · exact hp e

/-- on a route only the accounts of `RouteSet` pay or are paid; nothing is minted or burnt and no allowance changes -/
def routeRoles (w : World) (s rcv : Nat) (ops : List (Asset × Asset)) : Roles :=
  ⟨RouteSet w s rcv ops, RouteSet w s rcv ops, fun _ => False, fun _ => False, fun _ => False⟩

theorem routeRoles_frame {w w0 w' : World} {s rcv z : Nat} {ops : List (Asset × Asset)}
    (h : Led (routeRoles w s rcv ops) w0 w') (hz : ¬ RouteSet w s rcv ops z) (a : Asset) : bal w' a z = bal w0 a z :=
  h.frame a hz hz

theorem credit_route {w : World} {s rcv : Nat} {ops : List (Asset × Asset)} :
    (routeRoles w s rcv ops).pay s ∧ (routeRoles w s rcv ops).recv w.router := ⟨.actor, .router⟩

/-- a route run in `w0`, which `w` reaches by ledger primitives, involves the router, the recipient and the pairs its hops
resolve to (in `w`) -/
theorem routerSwapOps_route {name : Asset → String} {w w0 w' : World} {s sender : Nat} {ops : List (Asset × Asset)}
    {mn tt : Option Nat} (hs : Same w w0) (h : routerSwapOps name w0 sender ops mn tt = .ok w') :
    Led (routeRoles w s (tt.getD sender) ops) w0 w' := by
  have hr : RouteSet w s (tt.getD sender) ops w0.router := by rw [hs.router]; exact .router
  refine routerSwapOps_led h RouteSet.recipient ⟨hr, hr⟩ (fun o a Q hm hQ _ => ?_)
  have hq : RouteSet w s (tt.getD sender) ops Q.pair := .pair hm (facLookup_same hs o a ▸ hQ)
  exact ⟨hq, hq⟩

theorem swapOps_led {name : Asset → String} {w w' : World} {s : Nat} {funds : List (Nat × Nat)}
    {ops : List (Asset × Asset)} {mn toAddr : Option Nat} {out : Out}
    (h : exec name w (.router s funds (.swapOps ops mn toAddr)) = .ok (w', out)) :
    Led (routeRoles w s (toAddr.getD s) ops) w w' := by
  obtain ⟨w0, h0, _, h1⟩ := routerExec_ok (exec_ok h).1
  exact (attach_led h0 credit_route.1 credit_route.2).trans (routerSwapOps_route (attach_same h0) h1)

theorem rawReceive_led {name : Asset → String} {w w' : World} {s f amt : Nat} {funds : List (Nat × Nat)}
    {ops : List (Asset × Asset)} {mn toAddr : Option Nat} {out : Out}
    (h : exec name w (.router s funds (.receive f amt (.routerOps ops mn toAddr))) = .ok (w', out)) :
    Led (routeRoles w s (toAddr.getD f) ops) w w' := by
  obtain ⟨w0, h0, h1⟩ := routerExec_ok (exec_ok h).1
  obtain ⟨_, _, _, he, _, _, h1⟩ := routerReceive_ok h1
  cases he
  exact (attach_led h0 credit_route.1 credit_route.2).trans (routerSwapOps_route (attach_same h0) h1)

theorem tokSendRoute_led {name : Asset → String} {w w' : World} {t s amt : Nat}
    {ops : List (Asset × Asset)} {mn toAddr : Option Nat} {out : Out}
    (h : exec name w (.tokSend t s w.router amt (.routerOps ops mn toAddr)) = .ok (w', out)) :
    Led (routeRoles w s (toAddr.getD s) ops) w w' := by
  obtain ⟨w1, h1, ⟨_, h2⟩ | ⟨_, _, _, h2⟩⟩ := tokSend_ok (exec_ok h)
  · exact absurd h2 pairReceive_routerOps
  · obtain ⟨_, _, _, he, _, _, h2⟩ := routerReceive_ok h2
    cases he
    exact (Led.xfer credit_route.1 credit_route.2 h1).trans (routerSwapOps_route (tokTransfer_paid h1).kept.toSame h2)

/-- a single `ExecuteSwapOperation` (it succeeds only when the router itself submits it) -/
theorem swapOp_led {name : Asset → String} {w w' : World} {s : Nat} {funds : List (Nat × Nat)}
    {o a : Asset} {toAddr : Option Nat} {out : Out}
    (h : exec name w (.router s funds (.swapOp o a toAddr)) = .ok (w', out)) :
    Led (routeRoles w s (toAddr.getD w.router) [(o, a)]) w w' := by
  obtain ⟨w0, h0, _, h1⟩ := routerExec_ok (exec_ok h).1
  have s0 := attach_same h0
  have hr : RouteSet w s (toAddr.getD w.router) [(o, a)] w0.router := by rw [s0.router]; exact .router
  refine (attach_led h0 credit_route.1 credit_route.2).trans
    (routerHop_led h1 ⟨hr, hr⟩ (fun Q hQ _ => ?_) (by rw [s0.router]; exact .recipient))
  have hq : RouteSet w s (toAddr.getD w.router) [(o, a)] Q.pair :=
    .pair (List.mem_cons_self ..) (facLookup_same s0 o a ▸ hQ)
  exact ⟨hq, hq⟩

theorem route_frame {name : Asset → String} {w w' : World} {s : Nat} {funds : List (Nat × Nat)}
    {ops : List (Asset × Asset)} {mn toAddr : Option Nat} {out : Out}
    (h : exec name w (.router s funds (.swapOps ops mn toAddr)) = .ok (w', out)) (z : Nat)
    (hs : z ≠ s) (hr : z ≠ w.router) (hrcv : z ≠ toAddr.getD s)
    (hp : ¬ ∃ o a R, (o, a) ∈ ops ∧ facLookup w o a = some R ∧ R.pair = z) :
    ∀ asset, bal w' asset z = bal w asset z :=
  routeRoles_frame (swapOps_led h) (not_routeSet hs hr hrcv hp)

theorem route_frame_hook {name : Asset → String} {w w' : World} {t s amt : Nat}
    {ops : List (Asset × Asset)} {mn toAddr : Option Nat} {out : Out}
    (h : exec name w (.tokSend t s w.router amt (.routerOps ops mn toAddr)) = .ok (w', out)) (z : Nat)
    (hs : z ≠ s) (hr : z ≠ w.router) (hrcv : z ≠ toAddr.getD s)
    (hp : ¬ ∃ o a R, (o, a) ∈ ops ∧ facLookup w o a = some R ∧ R.pair = z) :
    ∀ asset, bal w' asset z = bal w asset z :=
  routeRoles_frame (tokSendRoute_led h) (not_routeSet hs hr hrcv hp)

theorem route_frame_raw {name : Asset → String} {w w' : World} {s f amt : Nat} {funds : List (Nat × Nat)}
    {ops : List (Asset × Asset)} {mn toAddr : Option Nat} {out : Out}
    (h : exec name w (.router s funds (.receive f amt (.routerOps ops mn toAddr))) = .ok (w', out)) (z : Nat)
    (hs : z ≠ s) (hr : z ≠ w.router) (hrcv : z ≠ toAddr.getD f)
    (hp : ¬ ∃ o a R, (o, a) ∈ ops ∧ facLookup w o a = some R ∧ R.pair = z) :
    ∀ asset, bal w' asset z = bal w asset z :=
  routeRoles_frame (rawReceive_led h) (not_routeSet hs hr hrcv hp)

theorem route_frame_swapOp {name : Asset → String} {w w' : World} {s : Nat} {funds : List (Nat × Nat)}
    {o a : Asset} {toAddr : Option Nat} {out : Out}
    (h : exec name w (.router s funds (.swapOp o a toAddr)) = .ok (w', out)) (z : Nat)
    (hs : z ≠ s) (hr : z ≠ w.router) (hrcv : z ≠ toAddr.getD w.router)
    (hp : ¬ ∃ R, facLookup w o a = some R ∧ R.pair = z) :
    ∀ asset, bal w' asset z = bal w asset z := by
  refine routeRoles_frame (swapOp_led h) (not_routeSet hs hr hrcv ?_)
  rintro ⟨o', a', R, hm, hR, e⟩
  rw [List.mem_singleton] at hm
  injection hm with e1 e2
  subst e1 e2
  exact hp ⟨R, hR, e⟩

theorem route_supply {name : Asset → String} {w w' : World} {s : Nat} {funds : List (Nat × Nat)}
    {ops : List (Asset × Asset)} {mn toAddr : Option Nat} {out : Out}
    (h : exec name w (.router s funds (.swapOps ops mn toAddr)) = .ok (w', out)) (t : Nat) :
    supply w' t = supply w t :=
  (swapOps_led h).supply_frame id

end Halo.Bounds
