/-
C13X proofs — a route at transaction level.

Both entry points, `ExecuteSwapOperations` with the input attached and a cw20 `Send` to the router carrying the route,
are "the sender pays the input to the router (`payout`), then `execute_swap_operations` runs" (`exec_swapOps_ok`,
`C11.tokSend_route_ok`).  `tx_effect` says what that does to every balance relative to the world before the transaction:
the credit touches no pair of the route, so the route is still quoted as before the transaction (`SameQuotes`), and that
is the world `route_effect_top` is told to take its quotes from.  `tx_core` reads it at a recipient that is no pair of the
route (`PassedThrough`); the two entry points are instances.  A concrete cyclic route: `Halo/Proofs/C13X/Example.lean`.
Core Lean only.
-/
import Halo.Proofs.C13W
import Halo.Proofs.C11

namespace Halo.C13X
open Halo.C02 Halo.C13W

/-! ### the quote does not see a credit to the router -/

/-- a run of ledger primitives in which no pair contract takes part leaves every quote of the router as it is -/
theorem quote_led {R : Roles} {w w0 : World} (h : Led R w w0)
    (hq : ∀ p, (w.pair p).isSome → ¬ R.pay p ∧ ¬ R.recv p) (ops : List (Asset × Asset)) (n : Nat) :
    routerSimulateTop w0 n ops = routerSimulateTop w n ops :=
  routerSimulateTop_congr (routerSimulate_congr h.kept.toSame h.kept.toks ops fun _ _ Q _ hp b =>
    h.frame b (hq Q.pair hp).1 (hq Q.pair hp).2) n

theorem quote_credit {w w0 : World} {s : Nat}
    (h : Led ⟨(· = s), (· = w.router), fun _ => False, fun _ => False, fun _ => False⟩ w w0)
    (hsp : (w.pair s).isNone) (hrp : (w.pair w.router).isNone) (ops : List (Asset × Asset)) (n : Nat) :
    routerSimulateTop w0 n ops = routerSimulateTop w n ops := by
  refine quote_led h (fun p hp => ⟨?_, ?_⟩) ops n <;> rintro rfl
  · rw [Option.isNone_iff_eq_none.1 hsp] at hp; cases hp
  · rw [Option.isNone_iff_eq_none.1 hrp] at hp; cases hp

theorem exec_swapOps_ok {name : Asset → String} {w w' : World} {s d amt : Nat} {ops : List (Asset × Asset)}
    {mn to : Option Nat} {out : Out}
    (h : exec name w (.router s [(d, amt)] (.swapOps ops mn to)) = .ok (w', out)) :
    ∃ w0, payout w s (.native d) w.router amt = .ok w0 ∧ routerSwapOps name w0 s ops mn to = .ok w' := by
  obtain ⟨w0, hat, _, h⟩ := routerExec_ok (exec_ok h).1
  exact ⟨w0, attach_single .. ▸ hat, h⟩

/-- the complete effect of a route transaction on every balance, relative to the PRE-transaction world `w`, for any
recipient other than the router: the sender `s` pays `amt` of `first` to the router, which holds none of it (`w0`);
then `execute_swap_operations` runs -/
theorem tx_effect {name : Asset → String} {w w0 w' : World} {s amt : Nat} {first : Asset}
    {ops : List (Asset × Asset)} {mn toAddr : Option Nat}
    (hok : RouteOK' w ops) (hrr : toAddr.getD s ≠ w.router)
    (hfirst : ops.head?.map (·.1) = some first)
    (h0 : bal w first w.router = 0)
    (hsp : (w.pair s).isNone) (hsr : s ≠ w.router)
    (hc : payout w s first w.router amt = .ok w0)
    (h : routerSwapOps name w0 s ops mn toAddr = .ok w') :
    ∃ target q, ops.getLast?.map (·.2) = some target ∧ routerSimulateTop w amt ops = .ok q ∧
      amt ≠ 0 ∧ amt ≤ bal w first s ∧
      (∀ b, OnRoute b ops → bal w' b w.router = 0) ∧
      (∀ b, ¬ OnRoute b ops → ∀ z, bal w' b z = bal w b z) ∧
      (∀ z, z ≠ w.router → NotRoutePair w ops z → ∀ b,
        bal w' b z + (if z = s ∧ b = first then amt else 0) =
          bal w b z + (if z = toAddr.getD s ∧ b = target then q else 0)) ∧
      (∀ pre o a post, ops = pre ++ (o, a) :: post →
        ∃ R x y s' k, facLookup w o a = some R ∧ routerSimulate w amt pre = .ok x ∧
          qSimulation w R.pair o x = .ok (y, s', k) ∧ routerSimulate w y post = .ok q ∧
          ∀ b, bal w' b R.pair + (if b = a then y else 0) =
            bal w b R.pair + (if b = o then x else 0) +
              (if R.pair = toAddr.getD s ∧ b = target then q else 0)) := by
  obtain ⟨hnz, pd⟩ := payout_paid hc
  have hs := pd.kept.toSame
  -- the credit changes no reserve of a pair of the route, so the route is still quoted as before the transaction
  have Q : SameQuotes w w0 ops := ⟨hs, pd.kept.toks, fun hp hm R hR b =>
    pd.frame b (hok.not_pair hsp hp hm R hR) (hok.not_router hp hm R hR)⟩
  have hbf : ∀ b, b ≠ (ops.head?.map (·.1)).getD b → b ≠ first := fun b hb e => hb (by rw [hfirst]; exact e)
  have hok0 : RouteOK' w0 ops := hok.sub hs (List.Sublist.refl _) fun hp hm b hb hbo =>
    (pd.other (hbf b hbo) _).trans (hok.routerEmpty hp hm b hb hbo)
  have hamt : bal w0 first w0.router = amt := by rw [hs.router, pd.credit hsr.symm, h0, Nat.zero_add]
  obtain ⟨target, q, e1, e2, hzero, hoff, hfr, hprs⟩ :=
    route_effect_top Q hok0 (by rw [hs.router]; exact hrr) hfirst hamt (routerSwapOps_hops h)
  rw [hs.router] at hzero hfr
  refine ⟨target, q, e1, e2, hnz, pd.le, hzero, fun b hb z => ?_, fun z hzr hzp b => ?_,
    fun pre o a post hsplit => ?_⟩
  · rw [hoff b hb z]
    exact pd.other (fun e : b = first => hb (e ▸ onRoute_first hfirst)) z
  · have e := pd.add b z
    rw [if_neg (fun e : b = first ∧ z = w.router => hzr e.2)] at e
    rw [hfr z hzr hzp b, Nat.add_right_comm, ite_iff (and_comm : z = s ∧ b = first ↔ _), e]
    rfl
  · obtain ⟨R, x, y, s', k, f1, f2, f3, f4, f5⟩ := hprs pre o a post hsplit
    refine ⟨R, x, y, s', k, f1, f2, f3, f4, fun b => ?_⟩
    rw [← Q.pairs (o, a) (hsplit ▸ List.mem_append_right _ List.mem_cons_self) R f1 b]
    exact f5 b

/-- what a route transaction did between the pre-transaction world `w` and `w'` when the recipient `rcv` is neither the
router nor a pair of the route: the sender `s` paid the input `amt` of `first`, the recipient received the quote `q` of
`target` (`net`: less the input, when it is the sender and the route is cyclic), the router kept nothing -/
structure PassedThrough (w w' : World) (s rcv amt : Nat) (first : Asset) (ops : List (Asset × Asset)) (target : Asset)
    (q : Nat) : Prop where
  last : ops.getLast?.map (·.2) = some target
  quote : routerSimulateTop w amt ops = .ok q
  input_ne : amt ≠ 0
  input_le : amt ≤ bal w first s
  net : bal w' target rcv = bal w target rcv + q - (if rcv = s ∧ target = first then amt else 0)
  recipient : ∀ b, bal w' b rcv + (if rcv = s ∧ b = first then amt else 0) = bal w b rcv + (if b = target then q else 0)
  sender : rcv ≠ s → ∀ b, bal w' b s + (if b = first then amt else 0) = bal w b s
  router : ∀ b, OnRoute b ops → bal w' b w.router = 0
  off : ∀ b, ¬ OnRoute b ops → ∀ z, bal w' b z = bal w b z

theorem tx_core {name : Asset → String} {w w0 w' : World} {s amt : Nat} {first : Asset}
    {ops : List (Asset × Asset)} {mn toAddr : Option Nat}
    (hok : RouteOK w (toAddr.getD s) ops)
    (hfirst : ops.head?.map (·.1) = some first)
    (h0 : bal w first w.router = 0)
    (hsp : (w.pair s).isNone) (hsr : s ≠ w.router)
    (hc : payout w s first w.router amt = .ok w0)
    (h : routerSwapOps name w0 s ops mn toAddr = .ok w') :
    ∃ target q, PassedThrough w w' s (toAddr.getD s) amt first ops target q := by
  obtain ⟨hok', hrr, hrp⟩ := hok.weaken
  obtain ⟨target, q, e1, e2, hnz, hle, hzero, hoff, hfr, _⟩ := tx_effect hok' hrr hfirst h0 hsp hsr hc h
  have hrcv : ∀ b, bal w' b (toAddr.getD s) + (if toAddr.getD s = s ∧ b = first then amt else 0) =
      bal w b (toAddr.getD s) + (if b = target then q else 0) := fun b =>
    (hfr _ hrr hrp b).trans (by rw [ite_iff (and_iff_right rfl)])
  refine ⟨target, q, e1, e2, hnz, hle, ?_, hrcv, fun hrs b => ?_, hzero, hoff⟩
  · have e := hrcv target
    rw [if_pos rfl] at e
    exact Nat.eq_sub_of_add_eq e
  · have e := hfr s hsr (hok'.not_pair hsp) b
    rw [ite_iff (and_iff_right rfl), if_neg (fun e : s = toAddr.getD s ∧ b = target => hrs e.1.symm)] at e
    exact e

theorem exec_route_passthrough {name : Asset → String} {w w' : World} {s d amt : Nat}
    {ops : List (Asset × Asset)} {mn toAddr : Option Nat} {out : Out}
    (hok : RouteOK w (toAddr.getD s) ops)
    (hfirst : ops.head?.map (·.1) = some (.native d))
    (h0 : bal w (.native d) w.router = 0)
    (hact : IsActor w s)
    (h : exec name w (.router s [(d, amt)] (.swapOps ops mn toAddr)) = .ok (w', out)) :
    ∃ target q, ops.getLast?.map (·.2) = some target ∧ routerSimulateTop w amt ops = .ok q ∧
      amt ≠ 0 ∧ amt ≤ bal w (.native d) s ∧
      bal w' target (toAddr.getD s) = bal w target (toAddr.getD s) + q -
        (if toAddr.getD s = s ∧ target = .native d then amt else 0) ∧
      (∀ b, bal w' b (toAddr.getD s) + (if toAddr.getD s = s ∧ b = .native d then amt else 0) =
        bal w b (toAddr.getD s) + (if b = target then q else 0)) ∧
      (toAddr.getD s ≠ s → ∀ b, bal w' b s + (if b = .native d then amt else 0) = bal w b s) ∧
      (∀ b, OnRoute b ops → bal w' b w.router = 0) ∧
      (∀ b, ¬ OnRoute b ops → ∀ z, bal w' b z = bal w b z) := by
  obtain ⟨w0, hc, h⟩ := exec_swapOps_ok h
  obtain ⟨target, q, X⟩ := tx_core hok hfirst h0 hact.noPair hact.ne_router hc h
  exact ⟨target, q, X.last, X.quote, X.input_ne, X.input_le, X.net, X.recipient, X.sender, X.router, X.off⟩

theorem exec_tokSend_passthrough {name : Asset → String} {w w' : World} {t s amt : Nat}
    {ops : List (Asset × Asset)} {mn toAddr : Option Nat} {out : Out}
    (hok : RouteOK w (toAddr.getD s) ops)
    (hfirst : ops.head?.map (·.1) = some (.token t))
    (h0 : bal w (.token t) w.router = 0)
    (hact : IsActor w s)
    (h : exec name w (.tokSend t s w.router amt (.routerOps ops mn toAddr)) = .ok (w', out)) :
    ∃ target q, ops.getLast?.map (·.2) = some target ∧ routerSimulateTop w amt ops = .ok q ∧
      amt ≠ 0 ∧ amt ≤ bal w (.token t) s ∧
      bal w' target (toAddr.getD s) = bal w target (toAddr.getD s) + q -
        (if toAddr.getD s = s ∧ target = .token t then amt else 0) ∧
      (∀ b, bal w' b (toAddr.getD s) + (if toAddr.getD s = s ∧ b = .token t then amt else 0) =
        bal w b (toAddr.getD s) + (if b = target then q else 0)) ∧
      (toAddr.getD s ≠ s → ∀ b, bal w' b s + (if b = .token t then amt else 0) = bal w b s) ∧
      (∀ b, OnRoute b ops → bal w' b w.router = 0) ∧
      (∀ b, ¬ OnRoute b ops → ∀ z, bal w' b z = bal w b z) := by
  obtain ⟨-, w0, hc, h⟩ := C11.tokSend_route_ok (exec_ok h)
  obtain ⟨target, q, X⟩ := tx_core (first := .token t) hok hfirst h0 hact.noPair hact.ne_router hc h
  exact ⟨target, q, X.last, X.quote, X.input_ne, X.input_le, X.net, X.recipient, X.sender, X.router, X.off⟩

end Halo.C13X
