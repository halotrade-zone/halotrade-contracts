/-
What an operation does to the ledgers, said once.

One lemma per handler shows that a successful call is a run of ledger primitives (`…_led`; `Led R w w'`, `Led.lean`), and
`exec_split` puts them together: every successful operation is such a run followed by at most one configuration step
(`cfgStep`: a pair's decimals update, or the factory message), with the parts played as `rolesOf` says.

Everything that holds of an operation because of what its primitives do — frames, conservation, who can lose, who can
mint, which allowances appear — is what holds along a `Led` and a look at the configuration steps.
Core Lean only.
-/
import Halo.Inv
import Halo.Proofs.Handlers
import Halo.Proofs.Led

namespace Halo

/-! ### the handlers as runs of ledger primitives -/

section handlers
variable {R : Roles}

theorem bankMoveList_led {src dst : Nat} (hs : R.pay src) (hd : R.recv dst) :
    ∀ {cs : List (Nat × Nat)} {w w' : World}, bankMoveList w src dst cs = .ok w' → Led R w w'
  | [], w, w', h => by
    simp only [bankMoveList] at h; cases h; exact .refl _
  | (d, amt) :: cs, w, w', h => by
    simp only [bankMoveList, bind_ok_iff] at h
    obtain ⟨w1, h1, h2⟩ := h
    exact (Led.bank hs hd h1).trans (bankMoveList_led hs hd h2)

theorem bankSend_led {w w' : World} {src dst : Nat} {cs : List (Nat × Nat)} (h : bankSend w src dst cs = .ok w')
    (hs : R.pay src) (hd : R.recv dst) : Led R w w' :=
  bankMoveList_led hs hd (bankSend_ok h)

theorem attach_led {w w' : World} {src dst : Nat} {cs : List (Nat × Nat)} (h : attach w src dst cs = .ok w')
    (hs : R.pay src) (hd : R.recv dst) : Led R w w' :=
  bankMoveList_led hs hd (attach_ok h)

theorem payout_led {w w' : World} {src : Nat} {a : Asset} {dst amt : Nat} (h : payout w src a dst amt = .ok w')
    (hs : R.pay src) (hd : R.recv dst) : Led R w w' := by
  cases a with
  | native d => exact bankSend_led h hs hd
  | token t => exact .xfer hs hd h

theorem pairSwap_led {w w' : World} {p : Nat} {P : PairSt} {funds : List (Nat × Nat)} {trader : Nat}
    {offer : Asset} {amt : Nat} {b ms to : Option Nat} {o : SwapOut}
    (h : pairSwap w p P funds trader offer amt b ms to = .ok (w', o)) (hp : R.pay p) (hr : R.recv (to.getD trader)) :
    Led R w w' := by
  rcases pairSwap_payout h with rfl | h
  · exact .refl _
  · exact payout_led h hp hr

theorem pairWithdraw_led {w w' : World} {p : Nat} {P : PairSt} {sender amount x0 x1 : Nat}
    (h : pairWithdraw w p P sender amount = .ok (w', x0, x1)) (hp : R.pay p) (hs : R.recv sender) (hq : R.tok P.lp) :
    Led R w w' := by
  obtain ⟨w1, w2, h1, h2, h3⟩ := (pairWithdraw_ok h).steps
  exact ((payout_led h1 hp hs).trans (payout_led h2 hp hs)).trans (.burn hp hq h3)

theorem pull_led {w w' : World} {a : Asset} {p s d : Nat} (h : pull w a p s d = .ok w') (hs : R.pay s)
    (hp : R.recv p) : Led R w w' := by
  cases a with
  | native x => cases h; exact .refl _
  | token t => exact .xferFrom hs hp h

theorem pairProvide_led {w w' : World} {p : Nat} {P : PairSt} {sender : Nat} {funds : List (Nat × Nat)}
    {as0 as1 : Asset} {am0 am1 : Nat} {tol rcv : Option Nat} {sh : Nat}
    (h : pairProvide w p P sender funds as0 am0 as1 am1 tol rcv = .ok (w', sh))
    (hs : R.pay sender) (hp : R.recv p) (hm : R.mint p) (hl : R.recv P.lp) (hr : R.recv (rcv.getD sender))
    (hq : R.tok P.lp) : Led R w w' := by
  obtain ⟨d0, d1, w1, w2, w3, h1, h2, h3, h4⟩ := pairProvide_steps h
  have k3 : Led R w2 w3 := by
    rcases h3 with ⟨_, h3⟩ | ⟨_, rfl⟩
    · exact .mint hm hl hq h3
    · exact .refl _
  exact (((pull_led h1 hs hp).trans (pull_led h2 hs hp)).trans k3).trans (.mint hm hr hq h4)

theorem getD_mem {S : Nat → Prop} {o : Option Nat} {s : Nat} (hs : S s) (h : ∀ z ∈ o.toList, S z) : S (o.getD s) := by
  cases o with
  | none => exact hs
  | some r => exact h r (by simp)

theorem pairReceive_led {w w' : World} {p t from_ amount : Nat} {hk : Hook} {out : Out}
    (h : pairReceive w p t from_ amount hk = .ok (w', out)) (hp : R.pay p) (hf : R.recv from_)
    (hr : ∀ z ∈ hk.receivers, R.recv z) (hq : ∀ P, w.pair p = some P → hk = .withdraw → t = P.lp → R.tok P.lp) :
    Led R w w' := by
  cases hk with
  | swap offer amt b ms to =>
    obtain ⟨P, k⟩ := pairReceive_swap h
    obtain ⟨w1, o, hs, he⟩ := k.swapped
    cases he
    exact pairSwap_led hs hp (getD_mem hf hr)
  | withdraw =>
    obtain ⟨P, k⟩ := pairReceive_withdraw h
    obtain ⟨w1, x0, x1, hs, he⟩ := k.withdrawn
    cases he
    exact pairWithdraw_led hs hp hf (hq P k.pair rfl k.lp)
  | routerOps ops mn to => exact absurd h pairReceive_routerOps
  | garbage => exact absurd h pairReceive_garbage

theorem routerHop_led {w w' : World} {sender : Nat} {o a : Asset} {tt : Option Nat}
    (h : routerHop w sender o a tt = .ok w') (hr : R.pay w.router ∧ R.recv w.router)
    (hp : ∀ Q, facLookup w o a = some Q → (w.pair Q.pair).isSome → R.pay Q.pair ∧ R.recv Q.pair)
    (hto : R.recv (tt.getD w.router)) : Led R w w' := by
  obtain ⟨_, Q, P, w0, so, hQ, hP, h0, hsw⟩ := routerHop_ok h
  obtain ⟨hpp, hpr⟩ := hp Q hQ (by rw [hP]; rfl)
  exact (payout_led h0 hr.1 hpr).trans (pairSwap_led hsw hpp hto)

/-- the hops of a route involve the router, the recipient, and the pairs the hops resolve to (in the world at entry) -/
theorem routerHops_led {rcv : Nat} (hto : R.recv rcv) : ∀ (ops : List (Asset × Asset)) {w w' : World},
    routerHops w rcv ops = .ok w' → R.pay w.router ∧ R.recv w.router →
    (∀ o a Q, (o, a) ∈ ops → facLookup w o a = some Q → (w.pair Q.pair).isSome → R.pay Q.pair ∧ R.recv Q.pair) →
    Led R w w'
  | [], w, w', h, _, _ => by cases h; exact .refl _
  | (o, a) :: rest, w, w', h, hr, hp => by
    obtain ⟨w1, h1, h2⟩ := routerHops_cons h
    have k1 : Led R w w1 := routerHop_led h1 hr (fun Q hQ => hp o a Q (List.mem_cons_self ..) hQ) (by
      split
      · exact hto
      · exact hr.2)
    have s1 := k1.kept.toSame
    exact k1.trans (routerHops_led hto rest h2 (s1.router ▸ hr) (fun o' a' Q hm hQ hs =>
      hp o' a' Q (List.mem_cons_of_mem _ hm) (by rw [← facLookup_same s1]; exact hQ) (by rw [← s1.pair]; exact hs)))

/-- a hop is a run of ledger primitives (whatever parts the accounts play), so it changes no contract state -/
theorem routerHop_same {w w' : World} {sender : Nat} {o a : Asset} {tt : Option Nat}
    (h : routerHop w sender o a tt = .ok w') : Same w w' ∧ SameToks w w' :=
  have k := (routerHop_led (R := ⟨fun _ => True, fun _ => True, fun _ => True, fun _ => True, fun _ => True⟩) h
    ⟨trivial, trivial⟩ (fun _ _ _ => ⟨trivial, trivial⟩) trivial).kept
  ⟨k.toSame, k.toks⟩

theorem routerSwapOps_led {name : Asset → String} {w w' : World} {sender : Nat} {ops : List (Asset × Asset)}
    {mn tt : Option Nat} (h : routerSwapOps name w sender ops mn tt = .ok w')
    (hto : R.recv (tt.getD sender)) (hr : R.pay w.router ∧ R.recv w.router)
    (hp : ∀ o a Q, (o, a) ∈ ops → facLookup w o a = some Q → (w.pair Q.pair).isSome → R.pay Q.pair ∧ R.recv Q.pair) :
    Led R w w' :=
  routerHops_led hto ops (routerSwapOps_hops h) hr hp

theorem routerReceive_led {name : Asset → String} {w w' : World} {from_ : Nat} {hk : Hook}
    (h : routerReceive name w from_ hk = .ok w') (hf : R.recv from_) (hrc : ∀ z ∈ hk.receivers, R.recv z)
    (hr : R.pay w.router ∧ R.recv w.router)
    (hp : hk.isRoute = true → ∀ z, (w.pair z).isSome → R.pay z ∧ R.recv z) : Led R w w' := by
  obtain ⟨ops, mn, to, rfl, _, _, h⟩ := routerReceive_ok h
  exact routerSwapOps_led h (getD_mem hf hrc) hr (fun _ _ Q _ _ hs => hp rfl Q.pair hs)

/-- the hook delivered after a `Send` / `SendFrom`: the destination and, for a route, the pair contracts pay and are
paid; the cw20 sender and the receivers the hook names are paid -/
theorem Delivered.led {name : Asset → String} {w w1 w' : World} {t from_ d amt : Nat} {hk : Hook} {out : Out}
    (h : Delivered name w w1 t from_ d amt hk w' out) (s1 : Same w w1) (hd : R.pay d ∧ R.recv d) (hf : R.recv from_)
    (hrc : ∀ z ∈ hk.receivers, R.recv z)
    (hp : hk.isRoute = true → ∀ z, (w.pair z).isSome → R.pay z ∧ R.recv z)
    (hq : ∀ P, w.pair d = some P → hk = .withdraw → t = P.lp → R.tok P.lp) : Led R w1 w' := by
  rcases h with ⟨_, h2⟩ | ⟨_, hr, _, h2⟩
  · exact pairReceive_led h2 hd.1 hf hrc (fun P hP => hq P (s1.pair ▸ hP))
  · exact routerReceive_led h2 hf hrc (by rw [s1.router, ← hr]; exact hd) (fun hi z hz => hp hi z (s1.pair ▸ hz))

end handlers

/-- the contracts an operation runs besides the account that submits it, which pay out of their own balances: the
contract it is sent to, and — when it carries a route — the router and the pair contracts -/
def Runs (w : World) : Op → Nat → Prop
  | .pair _ p _ _, z => z = p
  | .tokSend _ _ d _ h, z => z = d ∨ (h.isRoute = true ∧ (w.pair z).isSome)
  | .tokSendFrom _ _ _ d _ h, z => z = d ∨ (h.isRoute = true ∧ (w.pair z).isSome)
  | .router _ _ _, z => z = w.router ∨ (w.pair z).isSome
  | _, _ => False

/-- the accounts that can be debited by an operation: the actor, the owner whose allowance a `…From` operation spends
(it consented by granting the allowance), and the contracts the operation runs -/
def Payer (w : World) (op : Op) (z : Nat) : Prop := z = actorOf op ∨ z ∈ ownersOf op ∨ Runs w op z

/-- the only contract that mints during an operation: the pair a provision is addressed to -/
def MintOf (op : Op) (z : Nat) : Prop :=
  ∃ s f as0 am0 as1 am1 tol r, op = .pair s z f (.provide as0 am0 as1 am1 tol r)

/-- the operations that can change the total supply of the cw20 token `t`: a provision addressed to a pair whose LP
token is `t`; a withdrawal hook delivered by `t` to such a pair (cw20 `Send`, or `SendFrom` by a spender with the
holder's allowance), or the same `Receive` submitted raw with `t` itself as the sender; a burn of a holder's tokens
by the holder (`Burn`) or by a spender with its allowance (`BurnFrom`).  Routes are absent: the router only ever
swaps. -/
def LpChanger (w : World) (op : Op) (t : Nat) : Prop :=
  (∃ s q Q f as0 am0 as1 am1 tol r, w.pair q = some Q ∧ Q.lp = t ∧
      op = .pair s q f (.provide as0 am0 as1 am1 tol r)) ∨
  (∃ s q Q a, w.pair q = some Q ∧ Q.lp = t ∧ op = .tokSend t s q a .withdraw) ∨
  (∃ sp o q Q a, w.pair q = some Q ∧ Q.lp = t ∧ op = .tokSendFrom t sp o q a .withdraw) ∨
  (∃ q Q f from_ a, w.pair q = some Q ∧ Q.lp = t ∧ op = .pair t q f (.receive from_ a .withdraw)) ∨
  (∃ s a, op = .tokBurn t s a) ∨
  (∃ sp o a, op = .tokBurnFrom t sp o a)

def rolesOf (w : World) (op : Op) : Roles where
  pay := Payer w op
  recv := Touched w op
  mint := MintOf op
  tok := LpChanger w op
  grant z := z = actorOf op

namespace IsActor
variable {w : World} {s : Nat}
theorem noPair (h : IsActor w s) : (w.pair s).isNone := h.1
theorem noTok (h : IsActor w s) : (w.tok s).isNone := h.2.1
theorem ne_router (h : IsActor w s) : s ≠ w.router := h.2.2.1
theorem ne_factory (h : IsActor w s) : s ≠ w.facAddr := h.2.2.2
end IsActor

/-! ### membership in the role sets, by the shape of the operation -/

namespace Touched
variable {w : World} {z t s sp o d p a from_ : Nat} {f : List (Nat × Nat)} {hk : Hook} {to : Option Nat}
  {pm : PairMsg} {rm : RouterMsg}

theorem actor {op : Op} : Touched w op (actorOf op) := by
  cases op <;> first | exact .inl rfl | exact rfl

theorem bankSend_dst : Touched w (.bankSend s d f) d := .inr rfl

theorem tokTransfer_dst : Touched w (.tokTransfer t s d a) d := .inr rfl

theorem tokTransferFrom_dst : Touched w (.tokTransferFrom t sp o d a) d := .inr (.inr rfl)

theorem tokSend_dst : Touched w (.tokSend t s d a hk) d := .inr (.inl rfl)

theorem tokSend_receiver (h : z ∈ hk.receivers) : Touched w (.tokSend t s d a hk) z := .inr (.inr (.inl h))

theorem tokSend_routePair (hr : hk.isRoute = true) (hz : (w.pair z).isSome) : Touched w (.tokSend t s d a hk) z :=
  .inr (.inr (.inr (.inl ⟨hr, .inl hz⟩)))

theorem tokSendFrom_dst : Touched w (.tokSendFrom t sp o d a hk) d := .inr (.inr (.inl rfl))

theorem tokSendFrom_receiver (h : z ∈ hk.receivers) : Touched w (.tokSendFrom t sp o d a hk) z :=
  .inr (.inr (.inr (.inl h)))

theorem tokSendFrom_routePair (hr : hk.isRoute = true) (hz : (w.pair z).isSome) :
    Touched w (.tokSendFrom t sp o d a hk) z :=
  .inr (.inr (.inr (.inr (.inl ⟨hr, .inl hz⟩))))

theorem pair_addr : Touched w (.pair s p f pm) p := .inr (.inl rfl)

theorem pair_lp {P : PairSt} (hP : w.pair p = some P) : Touched w (.pair s p f pm) P.lp :=
  .inr (.inr (.inl ⟨P, hP, rfl⟩))

theorem provide_to {as0 as1 : Asset} {am0 am1 : Nat} {tol : Option Nat} (h : z ∈ to.toList) :
    Touched w (.pair s p f (.provide as0 am0 as1 am1 tol to)) z :=
  .inr (.inr (.inr h))

theorem swap_to {offer : Asset} {amt : Nat} {b ms : Option Nat} (h : z ∈ to.toList) :
    Touched w (.pair s p f (.swap offer amt b ms to)) z :=
  .inr (.inr (.inr h))

theorem pairReceive_from : Touched w (.pair s p f (.receive from_ a hk)) from_ := .inr (.inr (.inr (.inl rfl)))

theorem pairReceive_receiver (h : z ∈ hk.receivers) : Touched w (.pair s p f (.receive from_ a hk)) z :=
  .inr (.inr (.inr (.inr h)))

theorem router_addr : Touched w (.router s f rm) w.router := .inr (.inl rfl)

theorem router_pair (hz : (w.pair z).isSome) : Touched w (.router s f rm) z := .inr (.inr (.inl hz))

theorem swapOps_to {ops : List (Asset × Asset)} {mn : Option Nat} (h : z ∈ to.toList) :
    Touched w (.router s f (.swapOps ops mn to)) z :=
  .inr (.inr (.inr h))

theorem swapOp_to {x y : Asset} (h : z ∈ to.toList) : Touched w (.router s f (.swapOp x y to)) z :=
  .inr (.inr (.inr h))

theorem routerReceive_from : Touched w (.router s f (.receive from_ a hk)) from_ := .inr (.inr (.inr (.inl rfl)))

theorem routerReceive_receiver (h : z ∈ hk.receivers) : Touched w (.router s f (.receive from_ a hk)) z :=
  .inr (.inr (.inr (.inr h)))

theorem factory_addr {m : FacMsg} : Touched w (.factory s f m) w.facAddr := .inr rfl

end Touched

namespace Payer
variable {w : World} {op : Op} {z : Nat}

theorem actor : Payer w op (actorOf op) := .inl rfl

theorem owner (h : z ∈ ownersOf op) : Payer w op z := .inr (.inl h)

theorem runs (h : Runs w op z) : Payer w op z := .inr (.inr h)

theorem touched (h : Payer w op z) : Touched w op z := by
  rcases h with rfl | h | h
  · exact .actor
  · cases op <;> simp only [ownersOf, List.mem_singleton, List.not_mem_nil] at h <;>
      first | exact .inr (.inl h) | exact .inr h
  · cases op with
    | pair s p f m => exact h ▸ Touched.pair_addr
    | tokSend t s d a hk => exact h.elim (· ▸ Touched.tokSend_dst) fun e => .tokSend_routePair e.1 e.2
    | tokSendFrom t sp o d a hk => exact h.elim (· ▸ Touched.tokSendFrom_dst) fun e => .tokSendFrom_routePair e.1 e.2
    | router s f m => exact h.elim (· ▸ Touched.router_addr) .router_pair
    | _ => exact h.elim

end Payer

namespace LpChanger
variable {w : World} {p s a : Nat} {f : List (Nat × Nat)} {P : PairSt}

theorem provide {as0 as1 : Asset} {am0 am1 : Nat} {tol r : Option Nat} (hP : w.pair p = some P) :
    LpChanger w (.pair s p f (.provide as0 am0 as1 am1 tol r)) P.lp :=
  .inl ⟨s, p, P, f, as0, am0, as1, am1, tol, r, hP, rfl, rfl⟩

theorem tokSend_withdraw (hP : w.pair p = some P) : LpChanger w (.tokSend P.lp s p a .withdraw) P.lp :=
  .inr (.inl ⟨s, p, P, a, hP, rfl, rfl⟩)

theorem tokSendFrom_withdraw {sp o : Nat} (hP : w.pair p = some P) :
    LpChanger w (.tokSendFrom P.lp sp o p a .withdraw) P.lp :=
  .inr (.inr (.inl ⟨sp, o, p, P, a, hP, rfl, rfl⟩))

theorem pairReceive_withdraw {from_ : Nat} (hP : w.pair p = some P) :
    LpChanger w (.pair P.lp p f (.receive from_ a .withdraw)) P.lp :=
  .inr (.inr (.inr (.inl ⟨p, P, f, from_, a, hP, rfl, rfl⟩)))

theorem tokBurn {t : Nat} : LpChanger w (.tokBurn t s a) t := .inr (.inr (.inr (.inr (.inl ⟨s, a, rfl⟩))))

theorem tokBurnFrom {t sp o : Nat} : LpChanger w (.tokBurnFrom t sp o a) t :=
  .inr (.inr (.inr (.inr (.inr ⟨sp, o, a, rfl⟩))))

end LpChanger

/-- the configuration step that ends an operation, after its ledger primitives: a pair's decimals update or the factory's
handler; nothing for all other operations -/
def cfgStep (w : World) : Op → M World
  | .pair s p _ (.updateDecimals d da db) => pairUpdateDecimals w p s d da db
  | .factory s _ m => facStep w s m
  | _ => .ok w

theorem cfgStep_ok {w w' : World} {op : Op} (h : cfgStep w op = .ok w') :
    w' = w ∨
    (∃ s p f d da db, op = .pair s p f (.updateDecimals d da db) ∧ pairUpdateDecimals w p s d da db = .ok w') ∨
    (∃ s f d k, op = .factory s f (.addDecimals d k) ∧ facAddDecimals w s d k = .ok w') ∨
    (∃ s f o tc pc, op = .factory s f (.updateConfig o tc pc) ∧ facUpdateConfig w s o tc pc = .ok w') ∨
    (∃ s f a0 a1 req c ld np nl, op = .factory s f (.createPair a0 a1 req c ld np nl) ∧
      facCreatePair w s a0 a1 req c ld np nl = .ok w') := by
  cases op with
  | pair s p f m =>
    cases m with
    | updateDecimals d da db => exact .inr (.inl ⟨s, p, f, d, da, db, rfl, h⟩)
    | _ => cases h; exact .inl rfl
  | factory s f m =>
    cases m with
    | updateConfig o tc pc => exact .inr (.inr (.inr (.inl ⟨s, f, o, tc, pc, rfl, h⟩)))
    | createPair a0 a1 req c ld np nl => exact .inr (.inr (.inr (.inr ⟨s, f, a0, a1, req, c, ld, np, nl, rfl, h⟩)))
    | addDecimals d k => exact .inr (.inr (.inl ⟨s, f, d, k, rfl, h⟩))
    | migratePair p c => exact .inl (facMigratePair_ok h).2.2.2
  | _ => cases h; exact .inl rfl

/-- a configuration step changes configuration only, or is a `CreatePair`: a pair contract appears at `np`, its empty LP
token at `nl`, and the registry is rewritten -/
theorem cfgStep_cases {w w' : World} {op : Op} (h : cfgStep w op = .ok w') :
    ConfigOnly w w' ∨
    ∃ s f a0 a1 req c ld np nl P reg, op = .factory s f (.createPair a0 a1 req c ld np nl) ∧
      w' = { w with
        pair := fun a => if a = np then some P else w.pair a
        tok := fun a => if a = nl then some (newToken ld np) else w.tok a
        registry := reg } := by
  rcases cfgStep_ok h with rfl | ⟨_, _, _, _, _, _, _, hx⟩ | ⟨_, _, _, _, _, hx⟩ | ⟨_, _, _, _, _, _, hx⟩ |
    ⟨s, f, a0, a1, req, c, ld, np, nl, e, hx⟩
  · exact .inl (.of_pair_eq rfl rfl rfl rfl rfl rfl rfl)
  · exact .inl (pairUpdateDecimals_configOnly hx)
  · exact .inl (facAddDecimals_configOnly hx)
  · obtain ⟨_, _, rfl⟩ := facUpdateConfig_ok hx
    exact .inl (.of_pair_eq rfl rfl rfl rfl rfl rfl rfl)
  · obtain ⟨d0, d1, rfl⟩ := facCreatePair_world hx
    exact .inr ⟨s, f, a0, a1, req, c, ld, np, nl, _, _, e, rfl⟩

/-- what a configuration step does to the ledgers: nothing, but that a `CreatePair` puts an empty cw20 contract at the address
of its LP token -/
theorem cfgStep_ledgers {w w' : World} {op : Op} (h : cfgStep w op = .ok w') :
    w'.bank = w.bank ∧ (w'.tok = w.tok ∨
      ∃ s f a0 a1 req c ld np nl, op = .factory s f (.createPair a0 a1 req c ld np nl) ∧ Emptied w w' nl) := by
  rcases cfgStep_cases h with hd | ⟨s, f, a0, a1, req, c, ld, np, nl, P, reg, e, rfl⟩
  · exact ⟨hd.bank, .inl hd.tok⟩
  · exact ⟨rfl, .inr ⟨s, f, a0, a1, req, c, ld, np, nl, e, emptied_of_tok rfl rfl rfl rfl rfl⟩⟩

/-- a configuration step changes no balance, supply or allowance: the LP token a `CreatePair` instantiates is empty, and
at a fresh address -/
theorem cfgStep_quiet {w w' : World} {op : Op} (h : cfgStep w op = .ok w') (hfresh : FreshOK w op) :
    (∀ a z, bal w' a z = bal w a z) ∧ (∀ t, supply w' t = supply w t) ∧
      (∀ t o s, C07.allowOf w' t o s = C07.allowOf w t o s) := by
  obtain ⟨hb, ht | ⟨s, f, a0, a1, req, c, ld, np, nl, e, k⟩⟩ := cfgStep_ledgers h
  · exact ⟨bal_of_eq hb ht, supply_of_tok_eq ht, allowOf_of_tok_eq ht⟩
  · exact k.quiet (hfresh _ _ _ _ _ _ _ _ _ e).2.1

section
-- Sealed, `Touched` is entered through its rules above.  Left open, Lean unfolds it before `rolesOf` when it compares a
-- rule's statement with `(rolesOf w op).recv z`, and in the unfolded disjunction no longer sees the operation.
seal Touched

/-- every successful operation is a run of ledger primitives, with the parts played as `rolesOf` says, followed by
its configuration step -/
theorem exec_split {name : Asset → String} {w w' : World} {op : Op} {out : Out}
    (h : exec name w op = .ok (w', out)) : ∃ w0, Led (rolesOf w op) w w0 ∧ cfgStep w0 op = .ok w' := by
  have hact : Payer w op (actorOf op) := .actor
  have h := exec_ok h
  cases op with
  | bankSend s d cs => exact ⟨w', bankSend_led h.1 hact .bankSend_dst, rfl⟩
  | tokTransfer t s d a => exact ⟨w', .xfer hact .tokTransfer_dst h.1, rfl⟩
  | tokIncAllow t o s a => exact ⟨w', .incAllow rfl h.1, rfl⟩
  | tokBurn t s a => exact ⟨w', .burn hact LpChanger.tokBurn h.1, rfl⟩
  | tokTransferFrom t sp o d a =>
    exact ⟨w', .xferFrom (.owner (List.mem_singleton_self o)) .tokTransferFrom_dst h.1, rfl⟩
  | tokBurnFrom t sp o a =>
    exact ⟨w', .burnFrom (.owner (List.mem_singleton_self o)) LpChanger.tokBurnFrom h.1, rfl⟩
  | tokDecAllow t o s a => exact ⟨w', .decAllow rfl h.1, rfl⟩
  | tokSend t s d a hk =>
    obtain ⟨w1, h1, h2⟩ := tokSend_ok h
    have hd : Payer w (.tokSend t s d a hk) d := .runs (.inl rfl)
    refine ⟨w', (Led.xfer hact hd.touched h1).trans (h2.led (tokTransfer_paid h1).kept.toSame ⟨hd, hd.touched⟩ hact.touched
      (fun _ => .tokSend_receiver) (fun hi z hz => ?_) ?_), rfl⟩
    · have hz' : Payer w (.tokSend t s d a hk) z := .runs (.inr ⟨hi, hz⟩)
      exact ⟨hz', hz'.touched⟩
    · rintro P hP rfl rfl
      exact LpChanger.tokSend_withdraw hP
  | tokSendFrom t sp o d a hk =>
    obtain ⟨w1, h1, h2⟩ := tokSendFrom_iff.mp h
    have ho : Payer w (.tokSendFrom t sp o d a hk) o := .owner (List.mem_singleton_self o)
    have hd : Payer w (.tokSendFrom t sp o d a hk) d := .runs (.inl rfl)
    refine ⟨w', (Led.xferFrom ho hd.touched h1).trans (h2.led (tokTransferFrom_paid h1).kept.toSame ⟨hd, hd.touched⟩
      hact.touched (fun _ => .tokSendFrom_receiver) (fun hi z hz => ?_) ?_), rfl⟩
    · have hz' : Payer w (.tokSendFrom t sp o d a hk) z := .runs (.inr ⟨hi, hz⟩)
      exact ⟨hz', hz'.touched⟩
    · rintro P hP rfl rfl
      exact LpChanger.tokSendFrom_withdraw hP
  | pair s p f m =>
    obtain ⟨P, w0, hP, h0, h⟩ := pairExec_ok h
    have hp : Payer w (.pair s p f m) p := .runs rfl
    have k0 : Led (rolesOf w (.pair s p f m)) w w0 := attach_led h0 hact hp.touched
    have hP0 : w0.pair p = some P := by rw [(attach_same h0).pair]; exact hP
    cases m with
    | provide as0 am0 as1 am1 tol rcv =>
      obtain ⟨w1, sh, h1, he⟩ := h
      cases he
      exact ⟨w', k0.trans (pairProvide_led h1 hact hp.touched ⟨s, f, as0, am0, as1, am1, tol, rcv, rfl⟩
        (.pair_lp hP) (getD_mem .actor fun _ => .provide_to) (LpChanger.provide hP)), rfl⟩
    | swap offer amt b ms to =>
      obtain ⟨d, w1, o, _, _, h1, he⟩ := h
      cases he
      exact ⟨w', k0.trans (pairSwap_led h1 hp (getD_mem .actor fun _ => .swap_to)), rfl⟩
    | receive from_ amount hk =>
      refine ⟨w', k0.trans (pairReceive_led h hp .pairReceive_from (fun _ => .pairReceive_receiver) ?_), rfl⟩
      rintro Q hQ rfl rfl
      rw [hP0] at hQ
      cases hQ
      exact LpChanger.pairReceive_withdraw hP
    | updateDecimals d da db =>
      obtain ⟨w1, h1, he⟩ := h
      cases he
      exact ⟨w0, k0, h1⟩
  | router s f m =>
    obtain ⟨w0, h0, h⟩ := routerExec_ok h.1
    have s0 := attach_same h0
    have hr : Payer w (.router s f m) w.router := .runs (.inl rfl)
    have hr0 : (rolesOf w (.router s f m)).pay w0.router ∧ (rolesOf w (.router s f m)).recv w0.router := by
      rw [s0.router]; exact ⟨hr, hr.touched⟩
    have hp0 : ∀ z, (w0.pair z).isSome → (rolesOf w (.router s f m)).pay z ∧ (rolesOf w (.router s f m)).recv z := by
      intro z hz
      rw [s0.pair] at hz
      exact ⟨.runs (.inr hz), .router_pair hz⟩
    refine ⟨w', (attach_led h0 hact hr.touched).trans ?_, rfl⟩
    cases m with
    | swapOps ops mn to =>
      exact routerSwapOps_led h.2 (getD_mem .actor fun _ => .swapOps_to) hr0 (fun _ _ Q _ _ hs => hp0 Q.pair hs)
    | swapOp o a to =>
      exact routerHop_led h.2 hr0 (fun Q _ hs => hp0 Q.pair hs) (getD_mem hr0.2 fun _ => .swapOp_to)
    | assertMin a prev mn rcv => rw [h.2.2]; exact .refl _
    | receive from_ amount hk =>
      exact routerReceive_led h .routerReceive_from (fun _ => .routerReceive_receiver) hr0 (fun _ => hp0)
  | factory s f m =>
    obtain ⟨w0, h0, h⟩ := facExec_ok h.1
    exact ⟨w0, attach_led h0 hact .factory_addr, h⟩

end

/-- conservation as an inequality across every successful operation, for every asset (`Led.bounded`), with no condition on
the addresses a `CreatePair` is given: a cw20 ledger that is overwritten is empty, and `0 ≤ 0` -/
theorem exec_bounded {name : Asset → String} {w w' : World} {op : Op} {out : Out}
    (h : exec name w op = .ok (w', out)) (a : Asset) (B : Nat) (hb : Bounded (bal w a) (B + supT w a)) :
    Bounded (bal w' a) (B + supT w' a) := by
  obtain ⟨w0, hl, hc⟩ := exec_split h
  have h0 := hl.bounded a B hb
  obtain ⟨hbk, ht | ⟨_, _, _, _, _, _, _, _, nl, _, k⟩⟩ := cfgStep_ledgers hc
  · rw [supT_eq (supply_of_tok_eq ht)]
    exact h0.congr (bal_of_eq hbk ht a)
  · exact k.bounded a h0

/-- addresses that are fresh for a `CreatePair` stay so along a run of ledger primitives: it creates no contract -/
theorem FreshOK.led {R : Roles} {w w0 : World} {op : Op} (hf : FreshOK w op) (hl : Led R w w0) : FreshOK w0 op :=
  fun s f a0 a1 req c ld np nl e =>
    let ⟨h1, h2, h3⟩ := hf s f a0 a1 req c ld np nl e
    ⟨hl.kept.pair ▸ h1, hl.kept.toks.none h2, hl.kept.toks.none h3⟩

/-- the contracts a successful operation runs are pair contracts or the router -/
theorem Payer.src {name : Asset → String} {w w' : World} {op : Op} {out : Out} {z : Nat}
    (hz : Payer w op z) (h : exec name w op = .ok (w', out)) :
    z = actorOf op ∨ z ∈ ownersOf op ∨ (w.pair z).isSome ∨ z = w.router := by
  rcases hz with hz | hz | hz
  · exact .inl hz
  · exact .inr (.inl hz)
  · have h := exec_ok h
    refine .inr (.inr ?_)
    cases op with
    | pair s p f m =>
      obtain ⟨P, _, hP, _⟩ := pairExec_ok h
      exact .inl (by rw [hz, hP]; rfl)
    | tokSend t s d a hk =>
      obtain ⟨_, _, ⟨hd, _⟩ | ⟨_, hd, _⟩⟩ := tokSend_ok h
      · exact hz.elim (fun e => .inl (e ▸ hd)) (fun e => .inl e.2)
      · exact hz.elim (fun e => .inr (e.trans hd)) (fun e => .inl e.2)
    | tokSendFrom t sp o d a hk =>
      obtain ⟨_, _, ⟨hd, _⟩ | ⟨_, hd, _⟩⟩ := tokSendFrom_iff.mp h
      · exact hz.elim (fun e => .inl (e ▸ hd)) (fun e => .inl e.2)
      · exact hz.elim (fun e => .inr (e.trans hd)) (fun e => .inl e.2)
    | router s f m => exact hz.elim .inr .inl
    | _ => exact hz.elim

end Halo
