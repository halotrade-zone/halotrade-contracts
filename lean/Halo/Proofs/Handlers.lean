/-
Inversion of the contract handlers of `Halo/World.lean`: what a successful call means, as the sequence of
ledger primitives and sub-handlers it ran and the guards it passed.  World-level proofs read the handlers through
these lemmas; the few that unfold one (to show that a call succeeds, is rejected, or equals another) are named in
DESIGN.md §3.  Core Lean only.
-/
import Halo.Proofs.WorldBasic

namespace Halo

/-! ### pair: `swap` -/

/-- which side of the pool is offered: the reserves in (offer, ask) order, the offer's net of the credited amount -/
theorem swapSides_ok {w : World} {p : Nat} {P : PairSt} {offer ask : Asset} {amt x y od ad : Nat}
    (h : (if offer = P.a0 then do
            let x ← Cw.checkedSub (bal w P.a0 p) amt
            pure (x, bal w P.a1 p, P.a1, P.d0, P.d1)
          else if offer = P.a1 then do
            let x ← Cw.checkedSub (bal w P.a1 p) amt
            pure (x, bal w P.a0 p, P.a0, P.d1, P.d0)
          else .error .mismatch : M (Nat × Nat × Asset × Nat × Nat)) = .ok (x, y, ask, od, ad)) :
    (offer = P.a0 ∨ offer = P.a1) ∧ amt ≤ bal w offer p ∧ x = bal w offer p - amt ∧
      ask = (if offer = P.a0 then P.a1 else P.a0) ∧ y = bal w ask p ∧
      od = (if offer = P.a0 then P.d0 else P.d1) ∧ ad = (if offer = P.a0 then P.d1 else P.d0) := by
  rcases ite_ite_ok h with ⟨ha, hs⟩ | ⟨hna, hb, hs⟩
  · obtain ⟨_, hx, he⟩ := (bind_ok_iff _ _ _).mp hs
    obtain ⟨hle, rfl⟩ := Cw.checkedSub_ok.mp hx
    cases he
    subst ha
    rw [if_pos rfl, if_pos rfl, if_pos rfl]
    exact ⟨.inl rfl, hle, rfl, rfl, rfl, rfl, rfl⟩
  · obtain ⟨_, hx, he⟩ := (bind_ok_iff _ _ _).mp hs
    obtain ⟨hle, rfl⟩ := Cw.checkedSub_ok.mp hx
    cases he
    subst hb
    rw [if_neg hna, if_neg hna, if_neg hna]
    exact ⟨.inr rfl, hle, rfl, rfl, rfl, rfl, rfl⟩

/-- what a successful `swap` did, in the world `w0` the handler runs in (the offer already credited): the funds matched the
declaration; both pool queries answered (so the pair's cw20 assets exist); the offer is one of the pair's assets and was
priced against the pools, its own net of the offer; the guard passed on the decimals in (offer, ask) order; and the return,
unless zero, was paid out to the receiver -/
structure Swapped (w0 w' : World) (p : Nat) (P : PairSt) (funds : List (Nat × Nat)) (trader : Nat) (offer : Asset)
    (amt : Nat) (b ms to : Option Nat) (o : SwapOut) : Prop where
  sent : assertSent offer amt funds = .ok ()
  pool0 : balOf w0 P.a0 p = .ok (bal w0 P.a0 p)
  pool1 : balOf w0 P.a1 p = .ok (bal w0 P.a1 p)
  side : offer = P.a0 ∨ offer = P.a1
  le : amt ≤ bal w0 offer p
  offer_eq : o.offer = amt
  ask_eq : o.ask = if offer = P.a0 then P.a1 else P.a0
  priced : computeSwap (bal w0 offer p - amt) (bal w0 o.ask p) amt P.comm = .ok (o.ret, o.spread, o.comm)
  guarded : assertMaxSpread b ms amt o.ret o.spread
    (if offer = P.a0 then P.d0 else P.d1) (if offer = P.a0 then P.d1 else P.d0) = .ok ()
  paid : (o.ret = 0 ∧ w' = w0) ∨ (o.ret ≠ 0 ∧ payout w0 p o.ask (to.getD trader) o.ret = .ok w')

/-- the sides by cases -/
theorem Swapped.sides {w0 w' : World} {p : Nat} {P : PairSt} {funds : List (Nat × Nat)} {trader : Nat} {offer : Asset}
    {amt : Nat} {b ms to : Option Nat} {o : SwapOut} (k : Swapped w0 w' p P funds trader offer amt b ms to o) :
    (offer = P.a0 ∧ o.ask = P.a1) ∨ (offer ≠ P.a0 ∧ offer = P.a1 ∧ o.ask = P.a0) := by
  by_cases ha : offer = P.a0
  · exact .inl ⟨ha, k.ask_eq.trans (if_pos ha)⟩
  · exact .inr ⟨ha, k.side.resolve_left ha, k.ask_eq.trans (if_neg ha)⟩

theorem pairSwap_ok {w0 w' : World} {p : Nat} {P : PairSt} {funds : List (Nat × Nat)} {trader : Nat}
    {offer : Asset} {amt : Nat} {b ms to : Option Nat} {o : SwapOut}
    (h : pairSwap w0 p P funds trader offer amt b ms to = .ok (w', o)) :
    Swapped w0 w' p P funds trader offer amt b ms to o := by
  unfold pairSwap at h
  simp only [bind_ok_iff] at h
  obtain ⟨⟨⟩, h1, r0, hr0, r1, hr1, ⟨x, y, ask, od, ad⟩, hbr, ⟨n, s, k⟩, hcs, ⟨⟩, hms, hw⟩ := h
  cases balOf_ok hr0
  cases balOf_ok hr1
  have hpay : o = ⟨amt, n, s, k, ask⟩ ∧
      ((n = 0 ∧ w' = w0) ∨ (n ≠ 0 ∧ payout w0 p ask (to.getD trader) n = .ok w')) := by
    by_cases hn : n = 0
    · rw [if_pos hn] at hw; cases hw; exact ⟨rfl, .inl ⟨hn, rfl⟩⟩
    · rw [if_neg hn] at hw
      obtain ⟨_, hp, he⟩ := (bind_ok_iff _ _ _).mp hw
      cases he
      exact ⟨rfl, .inr ⟨hn, hp⟩⟩
  obtain ⟨rfl, hpay⟩ := hpay
  obtain ⟨hor, hle, rfl, rfl, rfl, rfl, rfl⟩ := swapSides_ok hbr
  exact ⟨h1, hr0, hr1, hor, hle, rfl, rfl, hcs, hms, hpay⟩

theorem pairSwap_payout {w0 w' : World} {p : Nat} {P : PairSt} {funds : List (Nat × Nat)} {trader : Nat}
    {offer : Asset} {amt : Nat} {b ms to : Option Nat} {o : SwapOut}
    (h : pairSwap w0 p P funds trader offer amt b ms to = .ok (w', o)) :
    w' = w0 ∨ payout w0 p o.ask (to.getD trader) o.ret = .ok w' :=
  (pairSwap_ok h).paid.imp (·.2) (·.2)

/-- all a swap moves is `o.ret` of the ask asset, from the pair to the recipient (who may be the pair) -/
theorem pairSwap_paid {w0 w' : World} {p : Nat} {P : PairSt} {funds : List (Nat × Nat)} {trader : Nat}
    {offer : Asset} {amt : Nat} {b ms to : Option Nat} {o : SwapOut}
    (h : pairSwap w0 p P funds trader offer amt b ms to = .ok (w', o)) :
    Paid w0 w' o.ask p (to.getD trader) o.ret := by
  rcases (pairSwap_ok h).paid with ⟨h0, rfl⟩ | ⟨_, hp⟩
  · exact h0 ▸ .zero ..
  · exact (payout_paid hp).2

theorem supply_pairSwap {w0 w' : World} {p : Nat} {P : PairSt} {funds : List (Nat × Nat)} {trader : Nat}
    {offer : Asset} {amt : Nat} {b ms tt : Option Nat} {o : SwapOut}
    (h : pairSwap w0 p P funds trader offer amt b ms tt = .ok (w', o)) (t : Nat) : supply w' t = supply w0 t :=
  (pairSwap_paid h).supply t

/-! ### pair: `withdraw_liquidity` -/

/-- what a successful `withdraw_liquidity` computed and did: the LP token exists; both refunds were computed from the pools
and the LP supply; then the two refunds were paid out in order (`w1`, `w2`) and the LP tokens burnt out of the pair's own
balance -/
structure WithdrawRun (w w' : World) (p : Nat) (P : PairSt) (s a x0 x1 : Nat) : Prop where
  lp : (w.tok P.lp).isSome
  refund0 : withdrawRefund (bal w P.a0 p) a (supply w P.lp) = .ok x0
  refund1 : withdrawRefund (bal w P.a1 p) a (supply w P.lp) = .ok x1
  steps : ∃ w1 w2, payout w p P.a0 s x0 = .ok w1 ∧ payout w1 p P.a1 s x1 = .ok w2 ∧ tokBurn w2 P.lp p a = .ok w'

theorem pairWithdraw_ok {w w' : World} {p : Nat} {P : PairSt} {s a x0 x1 : Nat}
    (h : pairWithdraw w p P s a = .ok (w', x0, x1)) : WithdrawRun w w' p P s a x0 x1 := by
  unfold pairWithdraw at h
  simp only [bind_ok_iff, pure_ok_iff, Prod.mk.injEq] at h
  obtain ⟨r0, hr0, r1, hr1, S, hS, ratio, hratio, y0, hy0, y1, hy1, w1, hp0, w2, hp1, w3, hb, rfl, rfl, rfl⟩ := h
  have e0 := balOf_ok hr0
  have e1 := balOf_ok hr1
  obtain ⟨eS, hlp⟩ := supplyOf_ok hS
  subst e0 e1 eS
  refine ⟨hlp, ?_, ?_, w1, w2, hp0, hp1, hb⟩
  · unfold withdrawRefund; rw [hratio]; exact hy0
  · unfold withdrawRefund; rw [hratio]; exact hy1

/-! ### pair: `provide_liquidity` -/

/-- the cw20 deposit `provide_liquidity` pulls for one asset with the sender's allowance (nothing for a native
asset, which arrived with the funds) -/
def pull (w : World) (a : Asset) (p s d : Nat) : M World :=
  match a with
  | .token t => tokTransferFrom w t p s p d
  | .native _ => pure w

/-- a pull is a payment by the sender to the pair, or nothing -/
theorem pull_paid {w w' : World} {a : Asset} {p s d : Nat} (h : pull w a p s d = .ok w') : w' = w ∨ Paid w w' a s p d := by
  cases a with
  | native x => cases h; exact .inl rfl
  | token t => exact .inr (tokTransferFrom_paid h)

theorem pull_same {w w' : World} {a : Asset} {p s d : Nat} (h : pull w a p s d = .ok w') : Same w w' :=
  (pull_paid h).elim (· ▸ .refl _) (·.kept.toSame)

theorem supply_pull {w w' : World} {a : Asset} {p s d : Nat} (h : pull w a p s d = .ok w') (t : Nat) :
    supply w' t = supply w t :=
  (pull_paid h).elim (· ▸ rfl) (·.supply t)

theorem pull_other {w w' : World} {a b : Asset} {p s d : Nat} (h : pull w a p s d = .ok w') (hb : b ≠ a) (z : Nat) :
    bal w' b z = bal w b z :=
  (pull_paid h).elim (· ▸ rfl) (·.other hb z)

/-- the deposit `provide_liquidity` takes for one pair asset from a sender other than the pair: a cw20 deposit moves from
the sender to the pair; a native deposit arrived with the funds, and nothing moves -/
theorem pull_effect {w w' : World} {a : Asset} {p s d : Nat} (h : pull w a p s d = .ok w') (hsp : s ≠ p) :
    (∀ x, a = .native x → w' = w) ∧
    (∀ t, a = .token t → bal w' a s + d = bal w a s ∧ bal w' a p = bal w a p + d) ∧
    (∀ b z, z ≠ s → z ≠ p → bal w' b z = bal w b z) := by
  cases a with
  | native x => cases h; exact ⟨fun _ _ => rfl, fun _ e => (nomatch e), fun _ _ _ _ => rfl⟩
  | token t =>
    have k := tokTransferFrom_paid h
    exact ⟨fun _ e => (nomatch e), fun _ _ => ⟨by rw [k.debit hsp.symm, Nat.sub_add_cancel k.le], k.credit hsp.symm⟩,
      fun b z h1 h2 => k.frame b h1 h2⟩

/-- the pool of an asset before this provision: the attached native deposit is already in the balance -/
def netPool (a : Asset) (r d : Nat) : Nat :=
  match a with
  | .native _ => r - d
  | .token _ => r

theorem select_ok {as0 as1 a : Asset} {am0 am1 d : Nat}
    (h : (if as0 = a then pure am0 else if as1 = a then pure am1 else .error .abort : M Nat) = .ok d) :
    (as0 = a ∧ d = am0) ∨ (as0 ≠ a ∧ as1 = a ∧ d = am1) :=
  (ite_ite_ok h).imp (fun ⟨h0, e⟩ => ⟨h0, ((pure_ok_iff _ _).mp e).symm⟩)
    fun ⟨h0, h1, e⟩ => ⟨h0, h1, ((pure_ok_iff _ _).mp e).symm⟩

theorem netPool_ok {a : Asset} {r d v : Nat}
    (h : (match a with | .token _ => pure r | .native _ => Cw.checkedSub r d : M Nat) = .ok v) :
    v = netPool a r d := by
  cases a with
  | native x => exact (Cw.checkedSub_ok.mp h).2
  | token x => exact ((pure_ok_iff _ _).mp h).symm

/-- what a successful `provide_liquidity` checked and did, in the world `w` that holds the attached funds: the declared
amounts matched the funds; `d0`, `d1` are the declarations in pair order; the slippage guard passed and the share was
computed on the pools net of the attached deposits; then the messages ran in order — the two deposits pulled (`w1`, `w2`),
on an empty pool the reserved unit minted to the LP token's own address (`w3`), the receiver validated by the LP token's
`Mint` and `m` minted to it -/
structure ProvideRun (w w' : World) (p : Nat) (P : PairSt) (s : Nat) (funds : List (Nat × Nat))
    (as0 as1 : Asset) (am0 am1 : Nat) (tol rcv : Option Nat) (m d0 d1 share : Nat) (w1 w2 w3 : World) : Prop where
  sent0 : assertSent as0 am0 funds = .ok ()
  sent1 : assertSent as1 am1 funds = .ok ()
  sel0 : (as0 = P.a0 ∧ d0 = am0) ∨ (as0 ≠ P.a0 ∧ as1 = P.a0 ∧ d0 = am1)
  sel1 : (as0 = P.a1 ∧ d1 = am0) ∨ (as0 ≠ P.a1 ∧ as1 = P.a1 ∧ d1 = am1)
  slippage : assertSlippage tol d0 d1 (netPool P.a0 (bal w P.a0 p) d0) (netPool P.a1 (bal w P.a1 p) d1) = .ok ()
  priced : lpShare s P.req (supply w P.lp) d0 d1 (netPool P.a0 (bal w P.a0 p) d0) (netPool P.a1 (bal w P.a1 p) d1)
    = .ok share
  share_ne : share ≠ 0
  pull0 : pull w P.a0 p s d0 = .ok w1
  pull1 : pull w1 P.a1 p s d1 = .ok w2
  reserved : (supply w P.lp = 0 ∧ share = m + 1 ∧ tokMint w2 P.lp p P.lp 1 = .ok w3) ∨
    (supply w P.lp ≠ 0 ∧ share = m ∧ w3 = w2)
  valid : badTo w rcv = false
  minted : tokMint w3 P.lp p (rcv.getD s) m = .ok w'

theorem pairProvide_ok {w w' : World} {p : Nat} {P : PairSt} {s : Nat} {funds : List (Nat × Nat)}
    {as0 as1 : Asset} {am0 am1 : Nat} {tol rcv : Option Nat} {m : Nat}
    (h : pairProvide w p P s funds as0 am0 as1 am1 tol rcv = .ok (w', m)) :
    ∃ d0 d1 share w1 w2 w3, ProvideRun w w' p P s funds as0 as1 am0 am1 tol rcv m d0 d1 share w1 w2 w3 := by
  unfold pairProvide at h
  simp only [bind_ok_iff] at h
  -- dropped: the overflow probe `from_uint256((pool_0 + amount_0) * (pool_1 + amount_1))`, whose result nothing reads
  obtain ⟨⟨⟩, hs0, ⟨⟩, hs1, r0, hr0, r1, hr1, d0, hd0, d1, hd1, s0, -, s1, -, pr, -, _, -, p0, hp0, p1, hp1,
    ⟨⟩, hsl, S, hS, share, hsh, hrest⟩ := h
  have e0 := balOf_ok hr0
  have e1 := balOf_ok hr1
  obtain ⟨eS, -⟩ := supplyOf_ok hS
  have ep0 := netPool_ok hp0
  have ep1 := netPool_ok hp1
  have hsh' : lpShare s P.req S d0 d1 p0 p1 = .ok share := by
    cases hx : lpShare s P.req S d0 d1 p0 p1 with
    | error e => rw [hx] at hsh; cases hsh
    | ok v => rw [hx] at hsh; rw [(pure_ok_iff _ _).mp hsh]
  subst e0 e1 eS ep0 ep1
  by_cases hz : share = 0
  · rw [if_pos hz] at hrest; cases hrest
  · rw [if_neg hz] at hrest
    simp only [bind_ok_iff, pure_ok_iff, Prod.mk.injEq] at hrest
    obtain ⟨share', hsh1, w1, hw1, w2, hw2, w3, hw3, ⟨⟩, hv, w4, hw4, rfl, rfl⟩ := hrest
    have hp1 : pull w P.a0 p s d0 = .ok w1 := by
      cases hP : P.a0 <;> simp only [hP] at hw1 <;> simpa only [pull] using hw1
    have hp2 : pull w1 P.a1 p s d1 = .ok w2 := by
      cases hP : P.a1 <;> simp only [hP] at hw2 <;> simpa only [pull] using hw2
    have hcase : (supply w P.lp = 0 ∧ share = share' + 1 ∧ tokMint w2 P.lp p P.lp 1 = .ok w3) ∨
        (supply w P.lp ≠ 0 ∧ share = share' ∧ w3 = w2) := by
      by_cases hS0 : supply w P.lp = 0
      · rw [if_pos hS0] at hsh1 hw3
        rw [Cw.checkedSub_ok] at hsh1
        exact Or.inl ⟨hS0, by omega, hw3⟩
      · rw [if_neg hS0] at hsh1 hw3
        rw [pure_ok_iff] at hsh1 hw3
        exact Or.inr ⟨hS0, hsh1, hw3.symm⟩
    -- the receiver is validated by the LP token's `Mint`, after the deposits were pulled: `badAddr` is the same there
    have hbad : w3.badAddr = w.badAddr := by
      have h12 := (pull_same hp1).trans (pull_same hp2)
      rcases hcase with ⟨_, _, h3⟩ | ⟨_, _, rfl⟩
      · exact (h12.trans (tokMint_minted h3).kept.toSame).badAddr
      · exact h12.badAddr
    exact ⟨d0, d1, share, w1, w2, w3, hs0, hs1, select_ok hd0, select_ok hd1, hsl, hsh', hz, hp1, hp2, hcase,
      validTo_ok_iff.mp (validTo_congr hbad rcv ▸ hv), hw4⟩

/-- the ledger primitives a provision runs: the two deposits are pulled, an empty pool has the reserved unit minted to the
LP token's own address, the sender's shares are minted to the receiver -/
theorem pairProvide_steps {w w' : World} {p : Nat} {P : PairSt} {s : Nat} {funds : List (Nat × Nat)}
    {as0 as1 : Asset} {am0 am1 : Nat} {tol rcv : Option Nat} {m : Nat}
    (h : pairProvide w p P s funds as0 am0 as1 am1 tol rcv = .ok (w', m)) :
    ∃ d0 d1 w1 w2 w3, pull w P.a0 p s d0 = .ok w1 ∧ pull w1 P.a1 p s d1 = .ok w2 ∧
      ((supply w P.lp = 0 ∧ tokMint w2 P.lp p P.lp 1 = .ok w3) ∨ (supply w P.lp ≠ 0 ∧ w3 = w2)) ∧
      tokMint w3 P.lp p (rcv.getD s) m = .ok w' :=
  let ⟨d0, d1, _, w1, w2, w3, k⟩ := pairProvide_ok h
  ⟨d0, d1, w1, w2, w3, k.pull0, k.pull1, k.reserved.imp (fun c => ⟨c.1, c.2.2⟩) (fun c => ⟨c.1, c.2.2⟩), k.minted⟩

/-! ### pair: `receive_cw20` -/

/-- what `receive_cw20` checked of a swap hook that the cw20 contract `t` delivered, and what it ran: the hook offers `t`
itself, in the amount sent, and `t` is an asset of the pair; the recipient is valid; the swap ran with no funds attached,
the cw20 sender as trader -/
structure SwapHook (w : World) (p t from_ amount : Nat) (offer : Asset) (amt : Nat) (b ms to : Option Nat)
    (r : World × Out) (P : PairSt) : Prop where
  pair : w.pair p = some P
  amt_eq : amt = amount
  asset : P.a0 = .token t ∨ P.a1 = .token t
  offer_eq : offer = .token t
  valid : badTo w to = false
  swapped : ∃ w' o, pairSwap w p P [] from_ offer amt b ms to = .ok (w', o) ∧ r = (w', .swap o)

theorem pairReceive_swap {w : World} {p t from_ amount : Nat} {offer : Asset} {amt : Nat} {b ms to : Option Nat}
    {r : World × Out} (h : pairReceive w p t from_ amount (.swap offer amt b ms to) = .ok r) :
    ∃ P, SwapHook w p t from_ amount offer amt b ms to r P := by
  unfold pairReceive at h
  cases hP : w.pair p with
  | none => rw [hP] at h; cases h
  | some P =>
    rw [hP] at h
    obtain ⟨h1, h⟩ := guard_ok h
    simp only [bind_ok_iff] at h
    obtain ⟨_, _, _, _, h⟩ := h
    obtain ⟨h2, h⟩ := guard_ok h
    obtain ⟨h3, h⟩ := guard_ok h
    simp only [bind_ok_iff, pure_ok_iff] at h
    obtain ⟨_, hv, ⟨w', o⟩, hs, h⟩ := h
    exact ⟨P, hP, Decidable.not_not.mp h1, Decidable.not_not.mp h2, Decidable.not_not.mp h3,
      validTo_ok_iff.mp hv, w', o, hs, h.symm⟩

/-- what `receive_cw20` checked of a withdrawal hook that the cw20 contract `t` delivered, and what it ran: `t` is the
pair's LP token, the cw20 sender a valid address, and the withdrawal ran for it -/
structure WithdrawHook (w : World) (p t from_ amount : Nat) (r : World × Out) (P : PairSt) : Prop where
  pair : w.pair p = some P
  lp : t = P.lp
  valid : w.badAddr from_ = false
  withdrawn : ∃ w' x0 x1, pairWithdraw w p P from_ amount = .ok (w', x0, x1) ∧ r = (w', .withdraw x0 x1)

theorem pairReceive_withdraw {w : World} {p t from_ amount : Nat} {r : World × Out}
    (h : pairReceive w p t from_ amount .withdraw = .ok r) : ∃ P, WithdrawHook w p t from_ amount r P := by
  unfold pairReceive at h
  cases hP : w.pair p with
  | none => rw [hP] at h; cases h
  | some P =>
    rw [hP] at h
    obtain ⟨h1, h⟩ := guard_ok h
    simp only [bind_ok_iff, pure_ok_iff] at h
    obtain ⟨_, hv, ⟨w', x0, x1⟩, hs, h⟩ := h
    exact ⟨P, hP, Decidable.not_not.mp h1, validAddr_ok_iff.mp hv, w', x0, x1, hs, h.symm⟩

theorem pairReceive_routerOps {w : World} {p t from_ amount : Nat} {ops : List (Asset × Asset)} {mn to : Option Nat}
    {r : World × Out} : pairReceive w p t from_ amount (.routerOps ops mn to) ≠ .ok r := by
  intro h
  unfold pairReceive at h
  split at h <;> cases h

theorem pairReceive_garbage {w : World} {p t from_ amount : Nat} {r : World × Out} :
    pairReceive w p t from_ amount .garbage ≠ .ok r := by
  intro h
  unfold pairReceive at h
  split at h <;> cases h

/-! ### pair: `update_native_token_decimals` and `execute` -/

/-- the pair state after `update_native_token_decimals`: both decimals are overwritten if the pair holds the denom -/
abbrev updDecimals (P : PairSt) (denom da db : Nat) : PairSt :=
  if P.a0 = .native denom ∨ P.a1 = .native denom then { P with d0 := da, d1 := db } else P

theorem pairUpdateDecimals_ok {w w' : World} {p sender denom da db : Nat}
    (h : pairUpdateDecimals w p sender denom da db = .ok w') :
    ∃ P, w.pair p = some P ∧ sender = P.factory ∧
      w' = { w with pair := fun a => if a = p then some (updDecimals P denom da db) else w.pair a } := by
  unfold pairUpdateDecimals at h
  cases hP : w.pair p with
  | none => rw [hP] at h; cases h
  | some P =>
    rw [hP] at h
    obtain ⟨hs, h⟩ := guard_ok h
    cases h
    exact ⟨P, rfl, Decidable.not_not.mp hs, rfl⟩

theorem pairExec_ok {w : World} {s p : Nat} {funds : List (Nat × Nat)} {m : PairMsg} {r : World × Out}
    (h : pairExec w s p funds m = .ok r) :
    ∃ P w0, w.pair p = some P ∧ attach w s p funds = .ok w0 ∧
      match m with
      | .provide as0 am0 as1 am1 tol rcv =>
        ∃ w' sh, pairProvide w0 p P s funds as0 am0 as1 am1 tol rcv = .ok (w', sh) ∧ r = (w', .provide sh)
      | .swap offer amt b ms to =>
        ∃ d w' o, offer = .native d ∧ badTo w0 to = false ∧
          pairSwap w0 p P funds s offer amt b ms to = .ok (w', o) ∧ r = (w', .swap o)
      | .receive from_ amount hk => pairReceive w0 p s from_ amount hk = .ok r
      | .updateDecimals d da db => ∃ w', pairUpdateDecimals w0 p s d da db = .ok w' ∧ r = (w', .none) := by
  unfold pairExec at h
  split at h
  · cases h
  rename_i P hP
  simp only [bind_ok_iff] at h
  obtain ⟨w0, h0, h⟩ := h
  refine ⟨P, w0, hP, h0, ?_⟩
  cases m with
  | provide as0 am0 as1 am1 tol rcv =>
    simp only [bind_ok_iff, pure_ok_iff] at h
    obtain ⟨⟨w', sh⟩, h1, h2⟩ := h
    exact ⟨w', sh, h1, h2.symm⟩
  | swap offer amt b ms to =>
    cases offer with
    | token t => cases h
    | native d =>
      simp only [bind_ok_iff, pure_ok_iff] at h
      obtain ⟨_, hv, ⟨w', o⟩, h1, h2⟩ := h
      exact ⟨d, w', o, rfl, validTo_ok_iff.mp hv, h1, h2.symm⟩
  | receive from_ amount hk => exact h
  | updateDecimals d da db =>
    simp only [bind_ok_iff, pure_ok_iff] at h
    obtain ⟨w', h1, h2⟩ := h
    exact ⟨w', h1, h2.symm⟩

/-! ### cw20 `Send` to a pair -/

theorem tokSendPair_ok {w : World} {t sender p amt : Nat} {hk : Hook} {r : World × Out}
    (h : tokSendPair w t sender p amt hk = .ok r) :
    ∃ w0, tokTransfer w t sender p amt = .ok w0 ∧ pairReceive w0 p t sender amt hk = .ok r := by
  unfold tokSendPair at h
  simpa only [bind_ok_iff] using h

/-! ### router -/

/-- the funds the pair's handler sees attached on a hop: the coins of a native offer, nothing for a cw20 `Send` -/
def hopFunds (o : Asset) (amt : Nat) : List (Nat × Nat) :=
  match o with
  | .native d => [(d, amt)]
  | .token _ => []

/-- one hop: the router pays its whole balance of the offer asset to the pair the registry names (attached coins for
a native offer, a cw20 `Send` otherwise), and the pair swaps it -/
theorem routerHop_ok {w w' : World} {sender : Nat} {o a : Asset} {tt : Option Nat}
    (h : routerHop w sender o a tt = .ok w') :
    sender = w.router ∧
    ∃ R Q w0 so, facLookup w o a = some R ∧ w.pair R.pair = some Q ∧
      payout w w.router o R.pair (bal w o w.router) = .ok w0 ∧
      pairSwap w0 R.pair Q (hopFunds o (bal w o w.router)) w.router o (bal w o w.router) none none tt
        = .ok (w', so) := by
  unfold routerHop at h
  split at h
  · cases h
  rename_i hs
  have hs := Decidable.not_not.mp hs
  subst hs
  refine ⟨rfl, ?_⟩
  split at h
  · cases h
  rename_i R hR
  simp only [bind_ok_iff] at h
  obtain ⟨amount, ham, h⟩ := h
  have e := balOf_ok ham
  subst e
  cases o with
  | native d =>
    simp only [bind_ok_iff, pure_ok_iff] at h
    obtain ⟨⟨w1, out⟩, h1, rfl⟩ := h
    obtain ⟨Q, w0, hQ, h0, d', w2, so, hd, _, hsw, he⟩ := pairExec_ok h1
    cases he
    exact ⟨R, Q, w0, so, hR, hQ, attach_single .. ▸ h0, hsw⟩
  | token t =>
    simp only [bind_ok_iff, pure_ok_iff] at h
    obtain ⟨⟨w1, out⟩, h1, rfl⟩ := h
    obtain ⟨w0, h0, hrc⟩ := tokSendPair_ok h1
    obtain ⟨Q, k⟩ := pairReceive_swap hrc
    obtain ⟨w2, so, hsw, he⟩ := k.swapped
    cases he
    exact ⟨R, Q, w0, so, hR, (tokTransfer_paid h0).kept.pair ▸ k.pair, h0, hsw⟩

/-- the hops of a route run in order; only the last one carries the recipient -/
theorem routerHops_cons {w w' : World} {rcv : Nat} {o a : Asset} {rest : List (Asset × Asset)}
    (h : routerHops w rcv ((o, a) :: rest) = .ok w') :
    ∃ w1, routerHop w w.router o a (if rest.isEmpty then some rcv else none) = .ok w1 ∧
      routerHops w1 rcv rest = .ok w' := by
  cases rest with
  | nil => exact ⟨w', h, rfl⟩
  | cons b rest =>
    simp only [routerHops, bind_ok_iff] at h
    obtain ⟨w1, h1, h2⟩ := h
    exact ⟨w1, h1, h2⟩

theorem routerAssertMin_ok {w : World} {sender : Nat} {a : Asset} {prev mn rcv : Nat} {u : Unit}
    (h : routerAssertMin w sender a prev mn rcv = .ok u) :
    sender = w.router ∧ prev ≤ bal w a rcv ∧ mn ≤ bal w a rcv - prev := by
  unfold routerAssertMin at h
  obtain ⟨hs, h⟩ := guard_ok h
  simp only [bind_ok_iff, Cw.checkedSub_ok] at h
  obtain ⟨b, hb, got, ⟨hle, rfl⟩, h⟩ := h
  cases balOf_ok hb
  obtain ⟨hm, -⟩ := guard_ok h
  exact ⟨Decidable.not_not.mp hs, hle, Nat.le_of_not_lt hm⟩

/-- `execute_swap_operations`: the route is non-empty and passes the shape check; the hops run toward the recipient;
a minimum, if given, is asserted on the recipient's gain in the route's final asset -/
theorem routerSwapOps_ok {name : Asset → String} {w w' : World} {sender : Nat} {ops : List (Asset × Asset)}
    {mn to : Option Nat} (h : routerSwapOps name w sender ops mn to = .ok w') :
    ∃ last, ops.getLast? = some last ∧ assertOperations (opsTexts name ops) = .ok () ∧
      routerHops w (to.getD sender) ops = .ok w' ∧
      ∀ m, mn = some m → bal w last.2 (to.getD sender) ≤ bal w' last.2 (to.getD sender) ∧
        m ≤ bal w' last.2 (to.getD sender) - bal w last.2 (to.getD sender) := by
  unfold routerSwapOps at h
  split at h
  · cases h
  rename_i o target hl
  simp only [bind_ok_iff] at h
  obtain ⟨⟨⟩, hsh, h⟩ := h
  refine ⟨(o, target), hl, hsh, ?_⟩
  cases mn with
  | none => exact ⟨h, fun _ e => by cases e⟩
  | some m =>
    simp only [bind_ok_iff, pure_ok_iff] at h
    obtain ⟨prev, hprev, w1, hh, ⟨⟩, hmin, rfl⟩ := h
    have e := balOf_ok hprev
    subst e
    obtain ⟨_, h1, h2⟩ := routerAssertMin_ok hmin
    exact ⟨hh, fun _ e => by cases e; exact ⟨h1, h2⟩⟩

theorem routerSwapOps_hops {name : Asset → String} {w w' : World} {sender : Nat} {ops : List (Asset × Asset)}
    {mn to : Option Nat} (h : routerSwapOps name w sender ops mn to = .ok w') :
    routerHops w (to.getD sender) ops = .ok w' :=
  let ⟨_, _, _, hh, _⟩ := routerSwapOps_ok h
  hh

theorem routerExec_ok {name : Asset → String} {w w' : World} {s : Nat} {funds : List (Nat × Nat)} {m : RouterMsg}
    (h : routerExec name w s funds m = .ok w') :
    ∃ w0, attach w s w.router funds = .ok w0 ∧
      match m with
      | .swapOps ops mn to => badTo w0 to = false ∧ routerSwapOps name w0 s ops mn to = .ok w'
      | .swapOp o a to => badTo w0 to = false ∧ routerHop w0 s o a to = .ok w'
      | .assertMin a prev mn rcv => w0.badAddr rcv = false ∧ routerAssertMin w0 s a prev mn rcv = .ok () ∧ w' = w0
      | .receive from_ _ hk => routerReceive name w0 from_ hk = .ok w' := by
  unfold routerExec at h
  simp only [bind_ok_iff] at h
  obtain ⟨w0, h0, h⟩ := h
  refine ⟨w0, h0, ?_⟩
  cases m with
  | swapOps ops mn to =>
    simp only [bind_ok_iff] at h
    obtain ⟨_, hv, h⟩ := h
    exact ⟨validTo_ok_iff.mp hv, h⟩
  | swapOp o a to =>
    simp only [bind_ok_iff] at h
    obtain ⟨_, hv, h⟩ := h
    exact ⟨validTo_ok_iff.mp hv, h⟩
  | assertMin a prev mn rcv =>
    simp only [bind_ok_iff, pure_ok_iff] at h
    obtain ⟨_, hv, _, h1, h2⟩ := h
    exact ⟨validAddr_ok_iff.mp hv, h1, h2.symm⟩
  | receive from_ amount hk => exact h

/-! ### factory -/

theorem facUpdateConfig_ok {w w' : World} {sender : Nat} {o tc pc : Option Nat}
    (h : facUpdateConfig w sender o tc pc = .ok w') :
    sender = w.owner ∧ badTo w o = false ∧
      w' = { w with owner := o.getD w.owner, tokenCode := tc.getD w.tokenCode, pairCode := pc.getD w.pairCode } := by
  unfold facUpdateConfig at h
  obtain ⟨hs, h⟩ := guard_ok h
  obtain ⟨hb, h⟩ := guard_ok h
  cases h
  exact ⟨Decidable.not_not.mp hs, by simpa using hb, rfl⟩

theorem facMigratePair_ok {w w' : World} {sender p : Nat} {c : Option Nat}
    (h : facMigratePair w sender p c = .ok w') :
    sender = w.owner ∧ c.getD w.pairCode = w.envPairCode ∧ (∃ P, w.pair p = some P ∧ P.factory = w.facAddr) ∧
      w' = w := by
  unfold facMigratePair at h
  obtain ⟨hs, h⟩ := guard_ok h
  obtain ⟨hc, h⟩ := guard_ok h
  cases hP : w.pair p with
  | none => rw [hP] at h; cases h
  | some P =>
    rw [hP] at h
    dsimp only at h
    by_cases hf : P.factory = w.facAddr
    · rw [if_pos hf] at h
      cases h
      exact ⟨Decidable.not_not.mp hs, Decidable.not_not.mp hc, ⟨P, rfl, hf⟩, rfl⟩
    · rw [if_neg hf] at h; cases h

/-- the pair contract a successful `CreatePair` instantiates -/
abbrev newPair (w : World) (a0 a1 : Asset) (req : Requirements) (comm : Option Nat) (nl d0 d1 : Nat) : PairSt :=
  { a0 := a0, a1 := a1, d0 := d0, d1 := d1, lp := nl, comm := comm.getD defaultCommission, req := req,
    factory := w.facAddr }

/-- its LP token: no balances, no allowances, no supply, minted by the new pair -/
abbrev newToken (lpDec : Option Nat) (np : Nat) : Token :=
  { bal := fun _ => 0, allow := fun _ _ => none, supply := 0, minter := some np, decimals := lpDec.getD 6 }

/-- its registry record -/
abbrev newRecord (a0 a1 : Asset) (req : Requirements) (comm : Option Nat) (np nl d0 d1 : Nat) : Record :=
  { a0 := a0, a1 := a1, pair := np, lp := nl, d0 := d0, d1 := d1, req := req, comm := comm.getD defaultCommission }

/-- what a successful `CreatePair` checked and did: sent by the owner, over two distinct assets whose decimals (`d0`, `d1`)
the factory could query, at most 100 % commission, no pair registered over them, the configured code ids exist, LP
decimals at most 18; and the world it leaves: the new pair contract, its empty LP token, the registry entry -/
structure Created (w w' : World) (s : Nat) (a0 a1 : Asset) (req : Requirements) (comm lpDec : Option Nat)
    (np nl d0 d1 : Nat) : Prop where
  owner : s = w.owner
  ne : a0 ≠ a1
  comm_le : ∀ c, comm = some c → c ≤ E
  dec0 : assetDecimals w a0 = .ok d0
  dec1 : assetDecimals w a1 = .ok d1
  unregistered : regLookup (pairKey (w.rawId a0) (w.rawId a1)) w.registry = none
  pairCode : w.pairCode = w.envPairCode
  tokenCode : w.tokenCode = w.envTokenCode
  lpDec_le : ∀ d, lpDec = some d → d ≤ 18
  world : w' = { w with
    pair := fun a => if a = np then some (newPair w a0 a1 req comm nl d0 d1) else w.pair a
    tok := fun a => if a = nl then some (newToken lpDec np) else w.tok a
    registry := regInsert (pairKey (w.rawId a0) (w.rawId a1)) (newRecord a0 a1 req comm np nl d0 d1) w.registry }

theorem facCreatePair_ok {w w' : World} {s : Nat} {a0 a1 : Asset} {req : Requirements} {comm lpDec : Option Nat}
    {np nl : Nat} (h : facCreatePair w s a0 a1 req comm lpDec np nl = .ok w') :
    ∃ d0 d1, Created w w' s a0 a1 req comm lpDec np nl d0 d1 := by
  unfold facCreatePair at h
  obtain ⟨hs, h⟩ := guard_ok h
  obtain ⟨hne, h⟩ := guard_ok h
  obtain ⟨hc, h⟩ := guard_ok h
  simp only [bind_ok_iff] at h
  obtain ⟨d0, hd0, d1, hd1, h⟩ := h
  obtain ⟨hl, h⟩ := guard_ok h
  obtain ⟨hcode, h⟩ := guard_ok h
  obtain ⟨hd, h⟩ := guard_ok h
  injection h with h
  refine ⟨d0, d1, Decidable.not_not.mp hs, hne, ?_, hd0, hd1, by simpa using hl,
    Decidable.not_not.mp (fun e => hcode (.inl e)), Decidable.not_not.mp (fun e => hcode (.inr e)), ?_, h.symm⟩
  · rintro c rfl; simpa using hc
  · rintro d rfl; simpa using hd

theorem facCreatePair_world {w w' : World} {s : Nat} {a0 a1 : Asset} {req : Requirements} {comm lpDec : Option Nat}
    {np nl : Nat} (h : facCreatePair w s a0 a1 req comm lpDec np nl = .ok w') :
    ∃ d0 d1, w' = { w with
      pair := fun a => if a = np then some (newPair w a0 a1 req comm nl d0 d1) else w.pair a
      tok := fun a => if a = nl then some (newToken lpDec np) else w.tok a
      registry := regInsert (pairKey (w.rawId a0) (w.rawId a1)) (newRecord a0 a1 req comm np nl d0 d1)
        w.registry } :=
  let ⟨d0, d1, k⟩ := facCreatePair_ok h
  ⟨d0, d1, k.world⟩

/-! ### factory: the decimals fan-out -/

/-- only configuration may differ: the factory's owner, code ids, denom allow-list and registry, and the two decimals
fields of existing pair states.  This is all that `UpdateConfig`, `AddNativeTokenDecimals` and the pairs'
`UpdateNativeTokenDecimals` can change. -/
structure ConfigOnly (w w' : World) : Prop where
  bank : w'.bank = w.bank
  tok : w'.tok = w.tok
  facAddr : w'.facAddr = w.facAddr
  router : w'.router = w.router
  rawId : w'.rawId = w.rawId
  badAddr : w'.badAddr = w.badAddr
  pairSome : ∀ q P, w.pair q = some P → ∃ da db, w'.pair q = some { P with d0 := da, d1 := db }
  pairNone : ∀ q, w.pair q = none → w'.pair q = none

theorem ConfigOnly.of_pair_eq {w w' : World} (hb : w'.bank = w.bank) (ht : w'.tok = w.tok)
    (hf : w'.facAddr = w.facAddr) (hr : w'.router = w.router) (hi : w'.rawId = w.rawId)
    (ha : w'.badAddr = w.badAddr) (hp : w'.pair = w.pair) : ConfigOnly w w' :=
  ⟨hb, ht, hf, hr, hi, ha, fun _ P h => ⟨P.d0, P.d1, hp ▸ h⟩, fun _ h => hp ▸ h⟩

theorem ConfigOnly.trans {a b c : World} (h1 : ConfigOnly a b) (h2 : ConfigOnly b c) : ConfigOnly a c where
  bank := h2.bank.trans h1.bank
  tok := h2.tok.trans h1.tok
  facAddr := h2.facAddr.trans h1.facAddr
  router := h2.router.trans h1.router
  rawId := h2.rawId.trans h1.rawId
  badAddr := h2.badAddr.trans h1.badAddr
  pairSome q P hP := by
    obtain ⟨da, db, h⟩ := h1.pairSome q P hP
    obtain ⟨da', db', h'⟩ := h2.pairSome q _ h
    exact ⟨da', db', h'⟩
  pairNone q h := h2.pairNone q (h1.pairNone q h)

theorem pairUpdateDecimals_configOnly {w w' : World} {p sender denom da db : Nat}
    (h : pairUpdateDecimals w p sender denom da db = .ok w') : ConfigOnly w w' := by
  obtain ⟨P, hP, _, rfl⟩ := pairUpdateDecimals_ok h
  refine ⟨rfl, rfl, rfl, rfl, rfl, rfl, fun q Q hQ => ?_, fun q hq => ?_⟩
  · by_cases hq : q = p
    · subst hq
      rw [hP] at hQ
      cases hQ
      unfold updDecimals
      split
      · exact ⟨da, db, if_pos rfl⟩
      · exact ⟨P.d0, P.d1, if_pos rfl⟩
    · exact ⟨Q.d0, Q.d1, (if_neg hq).trans hQ⟩
  · have : q ≠ p := fun e => by rw [e, hP] at hq; cases hq
    exact (if_neg this).trans hq

theorem facFanOut1_world {denom decimals : Nat} {w w' : World} {msgs msgs' : List (Nat × Nat × Nat)}
    {e : Bytes × Record} (h : facFanOut1 denom decimals (w, msgs) e = .ok (w', msgs')) :
    ∃ reg, w' = { w with registry := reg } := by
  unfold facFanOut1 at h
  dsimp only at h
  split at h
  · cases h
  injection h with h
  by_cases h0 : e.2.a0 = .native denom <;> by_cases h1 : e.2.a1 = .native denom <;>
    simp only [h0, h1, if_true, if_false, Prod.mk.injEq] at h <;> exact ⟨_, h.1.symm⟩

theorem facFanOut_fold_world {denom decimals : Nat} :
    ∀ (l : List (Bytes × Record)) {w w' : World} {msgs msgs' : List (Nat × Nat × Nat)},
    l.foldlM (facFanOut1 denom decimals) (w, msgs) = .ok (w', msgs') → ∃ reg, w' = { w with registry := reg }
  | [], w, w', _, _, h => by
    simp only [List.foldlM_nil, pure_ok_iff, Prod.mk.injEq] at h
    exact ⟨w.registry, h.1.symm⟩
  | e :: l, w, w', msgs, msgs', h => by
    simp only [List.foldlM_cons, bind_ok_iff] at h
    obtain ⟨⟨w1, msgs1⟩, h1, h2⟩ := h
    obtain ⟨r1, rfl⟩ := facFanOut1_world h1
    obtain ⟨r2, rfl⟩ := facFanOut_fold_world l h2
    exact ⟨r2, rfl⟩

theorem facFanOutMsgs_world {denom : Nat} : ∀ (l : List (Nat × Nat × Nat)) {w w' : World},
    facFanOutMsgs denom w l = .ok w' → ∃ pr, w' = { w with pair := pr } ∧ ConfigOnly w w'
  | [], w, w', h => by
    cases h
    exact ⟨w.pair, rfl, .of_pair_eq rfl rfl rfl rfl rfl rfl rfl⟩
  | (p, da, db) :: rest, w, w', h => by
    simp only [facFanOutMsgs, bind_ok_iff] at h
    obtain ⟨w1, h1, h2⟩ := h
    have c1 := pairUpdateDecimals_configOnly h1
    obtain ⟨_, _, _, rfl⟩ := pairUpdateDecimals_ok h1
    obtain ⟨pr, rfl, c2⟩ := facFanOutMsgs_world rest h2
    exact ⟨pr, rfl, c1.trans c2⟩

/-- `execute_add_native_token_decimals`: owner-gated, the factory must hold some of the denom; the denom is registered
with the new decimals (`w1`), and — if it was registered before — the fan-out rewrites the registry and then sends each
affected pair its update (`msgs`, dispatched in order) -/
theorem facAddDecimals_ok {w w' : World} {sender denom decimals : Nat}
    (h : facAddDecimals w sender denom decimals = .ok w') :
    sender = w.owner ∧ w.bank w.facAddr denom ≠ 0 ∧
      ∃ w1, w1 = { w with denoms := fun d => if d = denom then some decimals else w.denoms d } ∧
        (((w.denoms denom).isSome ∧ ∃ w2 msgs,
            w.registry.foldlM (facFanOut1 denom decimals) (w1, []) = .ok (w2, msgs) ∧
            facFanOutMsgs denom w2 msgs = .ok w') ∨
         (¬ (w.denoms denom).isSome ∧ w' = w1)) := by
  unfold facAddDecimals at h
  obtain ⟨hs, h⟩ := guard_ok h
  obtain ⟨hb, h⟩ := guard_ok h
  refine ⟨Decidable.not_not.mp hs, hb, _, rfl, ?_⟩
  split at h
  · obtain ⟨⟨w2, msgs⟩, h1, h2⟩ := (bind_ok_iff ..).1 h
    exact .inl ⟨‹_›, w2, msgs, h1, h2⟩
  · exact .inr ⟨‹_›, ((pure_ok_iff ..).1 h).symm⟩

theorem facAddDecimals_world {w w' : World} {sender denom decimals : Nat}
    (h : facAddDecimals w sender denom decimals = .ok w') :
    sender = w.owner ∧ w.bank w.facAddr denom ≠ 0 ∧ ConfigOnly w w' ∧
      ∃ reg pr, w' = { w with
        denoms := fun d => if d = denom then some decimals else w.denoms d, registry := reg, pair := pr } := by
  obtain ⟨hs, hb, w1, rfl, ⟨_, w2, msgs, h1, h2⟩ | ⟨_, rfl⟩⟩ := facAddDecimals_ok h
  · obtain ⟨reg, e1⟩ := facFanOut_fold_world _ h1
    obtain ⟨pr, e2, c⟩ := facFanOutMsgs_world _ h2
    have c1 : ConfigOnly w w2 := by rw [e1]; exact .of_pair_eq rfl rfl rfl rfl rfl rfl rfl
    exact ⟨hs, hb, c1.trans c, reg, pr, by rw [e2, e1]⟩
  · exact ⟨hs, hb, .of_pair_eq rfl rfl rfl rfl rfl rfl rfl, w.registry, w.pair, rfl⟩

theorem facAddDecimals_configOnly {w w' : World} {sender denom decimals : Nat}
    (h : facAddDecimals w sender denom decimals = .ok w') : ConfigOnly w w' :=
  (facAddDecimals_world h).2.2.1

/-! ### the operations -/

/-- what a cw20 `Send` / `SendFrom` does once the tokens have moved (`w1`): the token contract `t` delivers the hook, naming
`from_` as the cw20 sender, to the pair at `d`, or to the router -/
def Delivered (name : Asset → String) (w w1 : World) (t from_ d amt : Nat) (hk : Hook) (w' : World) (out : Out) : Prop :=
  ((w.pair d).isSome ∧ pairReceive w1 d t from_ amt hk = .ok (w', out)) ∨
  ((w.pair d).isSome = false ∧ d = w.router ∧ out = .none ∧ routerReceive name w1 from_ hk = .ok w')

theorem deliver_iff {name : Asset → String} {w w' : World} {x : M World} {t from_ d amt : Nat} {hk : Hook} {out : Out} :
    (if (w.pair d).isSome then x >>= fun w1 => pairReceive w1 d t from_ amt hk
     else if d = w.router then x >>= fun w1 => routerReceive name w1 from_ hk >>= fun w2 => pure (w2, Out.none)
     else .error .err) = .ok (w', out) ↔
    ∃ w1, x = .ok w1 ∧ Delivered name w w1 t from_ d amt hk w' out := by
  constructor
  · intro h
    split at h
    · rename_i hp
      obtain ⟨w1, h1, h2⟩ := (bind_ok_iff _ _ _).mp h
      exact ⟨w1, h1, .inl ⟨hp, h2⟩⟩
    · rename_i hp
      split at h
      · rename_i hd
        simp only [bind_ok_iff, pure_ok_iff, Prod.mk.injEq] at h
        obtain ⟨w1, h1, w2, h2, rfl, rfl⟩ := h
        exact ⟨w1, h1, .inr ⟨by simpa using hp, hd, rfl, h2⟩⟩
      · cases h
  · rintro ⟨w1, h1, ⟨hp, h2⟩ | ⟨hp, hd, rfl, h2⟩⟩
    · rw [if_pos hp]
      exact (bind_ok_iff _ _ _).mpr ⟨w1, h1, h2⟩
    · rw [if_neg (by rw [hp]; exact Bool.false_ne_true), if_pos hd]
      exact (bind_ok_iff _ _ _).mpr ⟨w1, h1, (bind_ok_iff _ _ _).mpr ⟨w', h2, rfl⟩⟩

/-- cw20 `Send`: the transfer, then the hook delivered to the pair at `d`, or to the router -/
theorem tokSend_ok {name : Asset → String} {w w' : World} {t s d amt : Nat} {hk : Hook} {out : Out}
    (h : tokSend name w t s d amt hk = .ok (w', out)) :
    ∃ w1, tokTransfer w t s d amt = .ok w1 ∧ Delivered name w w1 t s d amt hk w' out := by
  unfold tokSend tokSendPair at h
  exact deliver_iff.mp h

/-- cw20 `SendFrom`: as `Send`, the tokens pulled from `o` with the spender's allowance, the hook naming the spender -/
theorem tokSendFrom_iff {name : Asset → String} {w w' : World} {t sp o d amt : Nat} {hk : Hook} {out : Out} :
    tokSendFrom name w t sp o d amt hk = .ok (w', out) ↔
    ∃ w1, tokTransferFrom w t sp o d amt = .ok w1 ∧ Delivered name w w1 t sp d amt hk w' out := by
  unfold tokSendFrom
  exact deliver_iff

theorem routerReceive_ok {name : Asset → String} {w w' : World} {from_ : Nat} {hk : Hook}
    (h : routerReceive name w from_ hk = .ok w') :
    ∃ ops mn dst, hk = .routerOps ops mn dst ∧ w.badAddr from_ = false ∧ badTo w dst = false ∧
      routerSwapOps name w from_ ops mn dst = .ok w' := by
  unfold routerReceive at h
  obtain ⟨hf, h⟩ := guard_ok h
  cases hk with
  | routerOps ops mn dst =>
    simp only [bind_ok_iff] at h
    obtain ⟨_, hv, h⟩ := h
    exact ⟨ops, mn, dst, rfl, by simpa using hf, validTo_ok_iff.mp hv, h⟩
  | _ => cases h

/-- the factory handler that runs once the attached funds are credited -/
def facStep (w : World) (s : Nat) : FacMsg → M World
  | .updateConfig o tc pc => facUpdateConfig w s o tc pc
  | .createPair a0 a1 req comm lpDec np nl => facCreatePair w s a0 a1 req comm lpDec np nl
  | .addDecimals d k => facAddDecimals w s d k
  | .migratePair p c => facMigratePair w s p c

theorem facExec_ok {w w' : World} {s : Nat} {funds : List (Nat × Nat)} {m : FacMsg}
    (h : facExec w s funds m = .ok w') : ∃ w0, attach w s w.facAddr funds = .ok w0 ∧ facStep w0 s m = .ok w' := by
  unfold facExec at h
  simp only [bind_ok_iff] at h
  obtain ⟨w0, h0, h⟩ := h
  exact ⟨w0, h0, by cases m <;> exact h⟩

theorem bind_none_ok {x : M World} {w' : World} {out : Out}
    (h : (x >>= fun w' => pure (w', Out.none)) = .ok (w', out)) : x = .ok w' ∧ out = .none := by
  obtain ⟨w1, h1, he⟩ := (bind_ok_iff _ _ _).mp h
  cases he
  exact ⟨h1, rfl⟩

/-- `exec` dispatches to the handler; only pair messages and cw20 `Send`s report something -/
theorem exec_ok {name : Asset → String} {w w' : World} {op : Op} {out : Out}
    (h : exec name w op = .ok (w', out)) :
    match op with
    | .bankSend s d cs => bankSend w s d cs = .ok w' ∧ out = .none
    | .tokTransfer t s d a => tokTransfer w t s d a = .ok w' ∧ out = .none
    | .tokSend t s d a hk => tokSend name w t s d a hk = .ok (w', out)
    | .tokIncAllow t o s a => tokIncAllow w t o s a = .ok w' ∧ out = .none
    | .tokBurn t s a => tokBurn w t s a = .ok w' ∧ out = .none
    | .pair s p f m => pairExec w s p f m = .ok (w', out)
    | .router s f m => routerExec name w s f m = .ok w' ∧ out = .none
    | .factory s f m => facExec w s f m = .ok w' ∧ out = .none
    | .tokTransferFrom t sp o d a => tokTransferFrom w t sp o d a = .ok w' ∧ out = .none
    | .tokSendFrom t sp o d a hk => tokSendFrom name w t sp o d a hk = .ok (w', out)
    | .tokBurnFrom t sp o a => tokBurnFrom w t sp o a = .ok w' ∧ out = .none
    | .tokDecAllow t o s a => tokDecAllow w t o s a = .ok w' ∧ out = .none := by
  cases op with
  | tokSend | pair | tokSendFrom => exact h
  | _ => exact bind_none_ok h

end Halo
