/-
C15 — proofs: `assert_slippage_tolerance` accepts only within (a 2-ulp widening of) the caller's
tolerance, guard rejections are justified, tolerances above 100% are an ordinary error, and with
positive 128-bit inputs nothing aborts.

The guard is one comparison (`side`) run in both directions; `side_eq` says what a side computes,
each statement is proved for one side and used for both.  The arithmetic is about two successive
floor divisions at an arbitrary scale `s`.
-/
import Halo.Proofs.Basic
import Halo.Formulas
import Halo.Spec
import Mathlib.Tactic.Ring

namespace Halo.C15

/-- With the upper brackets of `q = ⌊n·s/d⌋`, `A = ⌊q·w/s⌋` and `w ≤ s`, two floors lose less than 2, `n·w/d < A + 2`:
the first loses less than `w/s ≤ 1` after scaling, the second less than 1. -/
theorem lt_two_floors {n d w s q A : Nat} (hd : 0 < d) (hw : w ≤ s) (hq : n * s < (q + 1) * d)
    (hA : q * w < (A + 1) * s) :
    n * w < (A + 2) * d := by
  apply Nat.lt_of_mul_lt_mul_right (a := s)
  calc n * w * s = w * n * s := by rw [Nat.mul_comm n w]
    _ < w * n * s + w + d := Nat.lt_of_le_of_lt (Nat.le_add_right ..) (Nat.lt_add_of_pos_right hd)
    _ ≤ (A + 1) * d * s + w * d := two_floors_gap hq (Nat.mul_comm q w ▸ hA)
    _ ≤ (A + 1) * d * s + s * d := Nat.add_le_add_left (Nat.mul_le_mul_right d hw) _
    _ = (A + 2) * d * s := by ring

/-- `⌊⌊d0·s/d1⌋·w/s⌋ ≤ ⌊r0·s/r1⌋` and `w ≤ s` give `d0·w/d1 < r0·s/r1 + 2` (cross-multiplied) -/
theorem sound_core {d0 d1 r0 r1 w s : Nat} (hd1 : 0 < d1) (hr1 : 0 < r1) (hs : 0 < s)
    (hw : w ≤ s) (h : d0 * s / d1 * w / s ≤ r0 * s / r1) :
    d0 * w * r1 < r0 * d1 * s + 2 * d1 * r1 :=
  calc d0 * w * r1
      < (d0 * s / d1 * w / s + 2) * d1 * r1 :=
        Nat.mul_lt_mul_of_pos_right
          (lt_two_floors hd1 hw (div_round _ hd1).2 (div_round _ hs).2) hr1
    _ = d0 * s / d1 * w / s * r1 * d1 + 2 * d1 * r1 := by ring
    _ ≤ r0 * s * d1 + 2 * d1 * r1 :=
        Nat.add_le_add_right (Nat.mul_le_mul_right _ ((Nat.le_div_iff_mul_le hr1).1 h)) _
    _ = r0 * d1 * s + 2 * d1 * r1 := by rw [Nat.mul_right_comm]

/-- `⌊r0·s/r1⌋ < ⌊⌊d0·s/d1⌋·w/s⌋` gives `r0·s/r1 < d0·w/d1` (cross-multiplied) -/
theorem complete_core {d0 d1 r0 r1 w s : Nat} (hd1 : 0 < d1) (hr1 : 0 < r1) (hs : 0 < s)
    (h : r0 * s / r1 < d0 * s / d1 * w / s) :
    r0 * d1 * s < d0 * w * r1 :=
  calc r0 * d1 * s
      = r0 * s * d1 := Nat.mul_right_comm ..
    _ < d0 * s / d1 * w / s * r1 * d1 :=
        Nat.mul_lt_mul_of_pos_right ((Nat.div_lt_iff_lt_mul hr1).1 h) hd1
    _ = d0 * s / d1 * w / s * d1 * r1 := Nat.mul_right_comm ..
    _ ≤ d0 * w * r1 := Nat.mul_le_mul_right _ (Nat.mul_comm w d0 ▸
        two_floors_le hs (Nat.div_mul_le_self ..) (Nat.mul_comm w _ ▸ Nat.div_mul_le_self ..))

theorem calcPriceDrop_eq (d0 d1 w : Nat) :
    calcPriceDrop d0 d1 w =
      if (d1 ≠ 0 ∧ d0 * E < U) ∧ d0 * E / d1 * w < U then .ok (d0 * E / d1 * w / E)
      else .error .abort := by
  unfold calcPriceDrop
  rw [Dec.fromRatio_eq, ite_ok_bind, Dec.mul_eq, ← ite_and]

theorem calcSlippageTolerance_eq (p0 p1 : Nat) :
    calcSlippageTolerance p0 p1 =
      if p1 ≠ 0 ∧ p0 * E < U then .ok (p0 * E / p1) else .error .abort :=
  Dec.fromRatio_eq p0 p1

/-- One disjunct of the guard's condition,
`calc_price_drop(d0, d1, w) > calc_slippage_tolerance(r0, r1)`, as a check of its own: the guard
runs it in both directions. -/
def side (w d0 d1 r0 r1 : Nat) : M Unit := do
  let a ← calcPriceDrop d0 d1 w
  let b ← calcSlippageTolerance r0 r1
  if b < a then .error .guard else .ok ()

theorem side_eq (w d0 d1 r0 r1 : Nat) :
    side w d0 d1 r0 r1 =
      if d1 ≠ 0 ∧ d0 * E < U ∧ d0 * E / d1 * w < U ∧ r1 ≠ 0 ∧ r0 * E < U then
        if r0 * E / r1 < d0 * E / d1 * w / E then .error .guard else .ok ()
      else .error .abort := by
  unfold side
  rw [calcPriceDrop_eq, ite_ok_bind, calcSlippageTolerance_eq, ite_ok_bind, ← ite_and]
  simp only [and_assoc]

theorem side_sound {w d0 d1 r0 r1 : Nat} (hw : w ≤ E) (h : side w d0 d1 r0 r1 = .ok ()) :
    d0 * w * r1 < r0 * d1 * E + 2 * d1 * r1 := by
  rw [side_eq, check_ok] at h
  obtain ⟨⟨hd1, -, -, hr1, -⟩, hG⟩ := h
  exact sound_core (Nat.pos_of_ne_zero hd1) (Nat.pos_of_ne_zero hr1) E_pos hw (Nat.le_of_not_lt hG)

theorem side_complete {w d0 d1 r0 r1 : Nat} (h : side w d0 d1 r0 r1 = .error .guard) :
    r0 * d1 * E < d0 * w * r1 := by
  rw [side_eq, check_guard] at h
  obtain ⟨⟨hd1, -, -, hr1, -⟩, hG⟩ := h
  exact complete_core (Nat.pos_of_ne_zero hd1) (Nat.pos_of_ne_zero hr1) E_pos hG

theorem side_mono {w w' d0 d1 r0 r1 : Nat} (hw : w' ≤ w) (h : side w d0 d1 r0 r1 = .ok ()) :
    side w' d0 d1 r0 r1 = .ok () := by
  rw [side_eq, check_ok] at h ⊢
  obtain ⟨⟨hd1, h1, h2, hr⟩, hG⟩ := h
  have hm := Nat.mul_le_mul_left (d0 * E / d1) hw
  exact ⟨⟨hd1, h1, Nat.lt_of_le_of_lt hm h2, hr⟩,
    fun h => hG (Nat.lt_of_lt_of_le h (Nat.div_le_div_right hm))⟩

/-- with 128-bit amounts and `w ≤ E` every product is at most `2^128·E·E < 2^256` -/
theorem side_total {w d0 d1 r0 r1 : Nat} (hw : w ≤ E) (hd0 : d0 < W) (hd1 : 0 < d1)
    (hr0 : r0 < W) (hr1 : 0 < r1) :
    side w d0 d1 r0 r1 = .ok () ∨ side w d0 d1 r0 r1 = .error .guard := by
  have small : ∀ {x : Nat}, x < W → x * E * E < U := fun hx =>
    Nat.lt_trans (Nat.mul_lt_mul_of_pos_right (Nat.mul_lt_mul_of_pos_right hx E_pos) E_pos)
      (by decide : W * E * E < U)
  rw [side_eq, if_pos ⟨hd1.ne', lt_of_mul_lt E_pos (small hd0),
    Nat.lt_of_le_of_lt (Nat.mul_le_mul (Nat.div_le_self ..) hw) (small hd0),
    hr1.ne', lt_of_mul_lt E_pos (small hr0)⟩]
  exact (ite_eq_or_eq ..).symm

theorem assertSlippage_some (t d0 d1 r0 r1 : Nat) :
    assertSlippage (some t) d0 d1 r0 r1 =
      if E < t then .error .err
      else side (E - t) d0 d1 r0 r1 >>= fun _ => side (E - t) d1 d0 r1 r0 := by
  unfold assertSlippage side
  by_cases ht : E < t
  · simp only [if_pos ht]
  · simp only [if_neg ht, Dec.sub_ok.2 ⟨Nat.le_of_not_lt ht, rfl⟩, ok_bind]
    rcases calcPriceDrop d0 d1 (E - t) with _ | a
    · rfl
    rcases calcSlippageTolerance r0 r1 with _ | b
    · rfl
    show (if b < a then _ else _) = (if b < a then _ else _) >>= _
    split <;> rfl

theorem assertSlippage_ok {t d0 d1 r0 r1 : Nat} :
    assertSlippage (some t) d0 d1 r0 r1 = .ok () ↔
      t ≤ E ∧ side (E - t) d0 d1 r0 r1 = .ok () ∧ side (E - t) d1 d0 r1 r0 = .ok () := by
  rw [assertSlippage_some, ite_error_iff, Nat.not_lt, bind_unit_ok]

theorem assertSlippage_guard {t d0 d1 r0 r1 : Nat} :
    assertSlippage (some t) d0 d1 r0 r1 = .error .guard ↔
      t ≤ E ∧ (side (E - t) d0 d1 r0 r1 = .error .guard ∨
        side (E - t) d0 d1 r0 r1 = .ok () ∧ side (E - t) d1 d0 r1 r0 = .error .guard) := by
  rw [assertSlippage_some, ite_error_error_iff (by decide), Nat.not_lt, bind_unit_error]

theorem slippage_sound {t d0 d1 r0 r1 : Nat}
    (h : assertSlippage (some t) d0 d1 r0 r1 = .ok ()) :
    Spec.c15Sound t d0 d1 r0 r1 = true := by
  obtain ⟨ht, h0, h1⟩ := assertSlippage_ok.1 h
  have hw : E - t ≤ E := Nat.sub_le ..
  simp only [Spec.c15Sound, Bool.and_eq_true, decide_eq_true_eq]
  exact ⟨⟨ht, side_sound hw h0⟩, side_sound hw h1⟩

theorem slippage_complete {t d0 d1 r0 r1 : Nat}
    (h : assertSlippage (some t) d0 d1 r0 r1 = .error .guard) :
    t ≤ E ∧ Spec.c15Complete t d0 d1 r0 r1 = true := by
  obtain ⟨ht, h⟩ := assertSlippage_guard.1 h
  simp only [Spec.c15Complete, Bool.or_eq_true, decide_eq_true_eq]
  exact ⟨ht, h.imp (fun h => Nat.lt_add_right _ (side_complete h))
    (fun h => Nat.lt_add_right _ (side_complete h.2))⟩

theorem slippage_gt_one {t d0 d1 r0 r1 : Nat} (h : E < t) :
    assertSlippage (some t) d0 d1 r0 r1 = .error .err := by
  rw [assertSlippage_some, if_pos h]

theorem slippage_no_abort {t d0 d1 r0 r1 : Nat} (ht : t ≤ E)
    (hd0 : 0 < d0) (hd1 : 0 < d1) (hr0 : 0 < r0) (hr1 : 0 < r1)
    (hd0W : d0 < W) (hd1W : d1 < W) (hr0W : r0 < W) (hr1W : r1 < W) :
    assertSlippage (some t) d0 d1 r0 r1 = .ok () ∨
      assertSlippage (some t) d0 d1 r0 r1 = .error .guard := by
  have hw : E - t ≤ E := Nat.sub_le ..
  rcases side_total hw hd0W hd1 hr0W hr1 with h0 | h0
  · rcases side_total hw hd1W hd0 hr1W hr0 with h1 | h1
    · exact .inl (assertSlippage_ok.2 ⟨ht, h0, h1⟩)
    · exact .inr (assertSlippage_guard.2 ⟨ht, .inr ⟨h0, h1⟩⟩)
  · exact .inr (assertSlippage_guard.2 ⟨ht, .inl h0⟩)

theorem slippage_mono_tolerance {t t' d0 d1 r0 r1 : Nat}
    (h : assertSlippage (some t) d0 d1 r0 r1 = .ok ()) (htt : t ≤ t') (ht' : t' ≤ E) :
    assertSlippage (some t') d0 d1 r0 r1 = .ok () := by
  obtain ⟨-, h0, h1⟩ := assertSlippage_ok.1 h
  have hw : E - t' ≤ E - t := Nat.sub_le_sub_left htt E
  exact assertSlippage_ok.2 ⟨ht', side_mono hw h0, side_mono hw h1⟩

end Halo.C15
