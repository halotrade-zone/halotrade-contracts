/-
C13 proofs — the router's route-shape check (`assert_operations` accepts iff exactly one ask asset is left dangling),
and one hop: its complete effect on every balance (`hop_effect`), from which the other statements about a hop are read
off.  Core Lean only.
-/
import Halo.Proofs.C02
import Halo.Proofs.Trace

namespace Halo.C13
open Halo.C02

/-- one iteration of the loop of `assert_operations` -/
def step (m : List String) (op : String × String) : List String :=
  (m.filter (· ≠ op.1)).filter (· ≠ op.2) ++ [op.2]

theorem danglingAsks_eq (ops : List (String × String)) : danglingAsks ops = ops.foldl step [] := rfl

theorem danglingAsks_snoc (ops : List (String × String)) (op : String × String) :
    danglingAsks (ops ++ [op]) = step (danglingAsks ops) op := by
  simp only [danglingAsks_eq, List.foldl_append, List.foldl_cons, List.foldl_nil]

theorem mem_step {m : List String} {op : String × String} {x : String} :
    x ∈ step m op ↔ x = op.2 ∨ (x ∈ m ∧ x ≠ op.1 ∧ x ≠ op.2) := by
  simp only [step, List.mem_append, List.mem_filter, List.mem_singleton, decide_eq_true_eq]
  constructor
  · rintro (⟨⟨h1, h2⟩, h3⟩ | h)
    · exact Or.inr ⟨h1, h2, h3⟩
    · exact Or.inl h
  · rintro (h | ⟨h1, h2, h3⟩)
    · exact Or.inr h
    · exact Or.inl ⟨⟨h1, h2⟩, h3⟩

theorem nodup_step {m : List String} {op : String × String} (h : m.Nodup) : (step m op).Nodup := by
  unfold step
  rw [List.nodup_append]
  refine ⟨(h.sublist List.filter_sublist).sublist List.filter_sublist, by simp, ?_⟩
  intro a ha b hb
  simp only [List.mem_filter, decide_eq_true_eq] at ha
  simp only [List.mem_singleton] at hb
  subst hb
  exact ha.2

@[elab_as_elim]
theorem rev_ind {α} {P : List α → Prop} (nil : P []) (snoc : ∀ l a, P l → P (l ++ [a])) : ∀ l, P l := by
  intro l
  rw [← List.reverse_reverse l]
  induction l.reverse with
  | nil => exact nil
  | cons a t ih => rw [List.reverse_cons]; exact snoc _ _ ih

theorem danglingAsks_nodup (ops : List (String × String)) : (danglingAsks ops).Nodup := by
  induction ops using rev_ind with
  | nil => exact List.nodup_nil
  | snoc ops op ih => rw [danglingAsks_snoc]; exact nodup_step ih

theorem mem_danglingAsks_nat (ops : List (String × String)) : ∀ x, x ∈ danglingAsks ops ↔
    ∃ i, ∃ _ : i < ops.length, ops[i].2 = x ∧ ∀ j, ∀ _ : j < ops.length, i < j → ops[j].1 ≠ x := by
  induction ops using rev_ind with
  | nil => exact fun x => ⟨fun h => absurd h List.not_mem_nil, fun ⟨i, hi, _⟩ => absurd hi (Nat.not_lt_zero i)⟩
  | snoc ops op ih =>
    intro x
    have hlen : (ops ++ [op]).length = ops.length + 1 := List.length_append
    -- an index of `ops ++ [op]` is an index of `ops`, or the last one
    have key : ∀ j (hj : j < (ops ++ [op]).length),
        (∃ h : j < ops.length, (ops ++ [op])[j] = ops[j]) ∨ (j = ops.length ∧ (ops ++ [op])[j] = op) := by
      intro j hj
      by_cases h : j < ops.length
      · exact .inl ⟨h, List.getElem_append_left h⟩
      · have e : j = ops.length := Nat.le_antisymm (Nat.le_of_lt_succ (hlen ▸ hj : j < ops.length + 1)) (Nat.le_of_not_lt h)
        exact .inr ⟨e, List.getElem_concat_length e hj⟩
    have hl : ops.length < (ops ++ [op]).length := hlen ▸ Nat.lt_succ_self _
    have hlast : (ops ++ [op])[ops.length] = op := List.getElem_concat_length rfl hl
    rw [danglingAsks_snoc, mem_step, ih]
    constructor
    · rintro (rfl | ⟨⟨i, hi, hx, hj⟩, h1, h2⟩)
      · exact ⟨ops.length, hl, by rw [hlast], fun j hj hlt => absurd (hlen ▸ hj : j < ops.length + 1) (Nat.not_lt.2 hlt)⟩
      · refine ⟨i, Nat.lt_trans hi hl, by rw [List.getElem_append_left hi]; exact hx, fun j hj' hlt => ?_⟩
        rcases key j hj' with ⟨h, e⟩ | ⟨_, e⟩
        · rw [e]; exact hj j h hlt
        · rw [e]; exact Ne.symm h1
    · rintro ⟨i, hi, hx, hj⟩
      rcases key i hi with ⟨hil, e⟩ | ⟨_, e⟩
      · rw [e] at hx
        have h1 : op.1 ≠ x := hlast ▸ hj ops.length hl hil
        by_cases h2 : x = op.2
        · exact .inl h2
        · refine .inr ⟨⟨i, hil, hx, fun j hjl hlt => ?_⟩, Ne.symm h1, h2⟩
          exact List.getElem_append_left hjl ▸ hj j (Nat.lt_trans hjl hl) hlt
      · rw [e] at hx
        exact .inl hx.symm

theorem mem_danglingAsks {ops : List (String × String)} {x : String} :
    x ∈ danglingAsks ops ↔
      ∃ i : Fin ops.length, (ops.get i).2 = x ∧ ∀ j : Fin ops.length, i < j → (ops.get j).1 ≠ x := by
  rw [mem_danglingAsks_nat]
  constructor
  · rintro ⟨i, hi, hx, hj⟩
    exact ⟨⟨i, hi⟩, hx, fun j hlt => hj j.1 j.2 hlt⟩
  · rintro ⟨i, hx, hj⟩
    exact ⟨i.1, i.2, hx, fun j hj' hlt => hj ⟨j, hj'⟩ hlt⟩

theorem assertOperations_iff (ops : List (String × String)) :
    assertOperations ops = .ok () ↔ (danglingAsks ops).length = 1 := by
  unfold assertOperations
  split
  · exact ⟨fun _ => ‹_›, fun _ => rfl⟩
  · exact ⟨nofun, fun h => absurd h ‹_›⟩

theorem two_outputs_rejected {o1 a1 o2 a2 : String} (h1 : a1 ≠ o2) (h2 : a1 ≠ a2) :
    assertOperations [(o1, a1), (o2, a2)] = .error .err := by
  have hd : danglingAsks [(o1, a1), (o2, a2)] = [a1, a2] := by
    simp [danglingAsks, h1, h2]
  unfold assertOperations
  rw [hd]
  rfl

theorem chain2_accepted {a b c : String} (h : b ≠ c) : assertOperations [(a, b), (b, c)] = .ok () := by
  have hd : danglingAsks [(a, b), (b, c)] = [c] := by
    simp [danglingAsks, h]
  unfold assertOperations
  rw [hd]
  rfl

/-- the complete effect of one hop (`routerHop_ok`: the router pays its whole balance `x` of the offer asset to the pair
the registry names, and the pair swaps it), additively: `x` of `o` moves from the router to the pair and `so.ret` of the
pair's other asset from the pair to the recipient, who may be the pair itself or the router; `so` is what the pair's
`Simulation` query answers in the pre-state -/
theorem hop_effect {w w' : World} {o a : Asset} {tt : Option Nat} (h : routerHop w w.router o a tt = .ok w') :
    ∃ R P, ∃ so : SwapOut, facLookup w o a = some R ∧ w.pair R.pair = some P ∧ bal w o w.router ≠ 0 ∧
      (o = P.a0 ∨ o = P.a1) ∧ so.ask = P.other o ∧
      (R.pair ≠ w.router → P.a0 ≠ P.a1 →
        qSimulation w R.pair o (bal w o w.router) = .ok (so.ret, so.spread, so.comm)) ∧
      ∀ c z, bal w' c z + (if c = o ∧ z = w.router then bal w o w.router else 0) +
            (if c = so.ask ∧ z = R.pair then so.ret else 0) =
          bal w c z + (if c = o ∧ z = R.pair then bal w o w.router else 0) +
            (if c = so.ask ∧ z = tt.getD w.router then so.ret else 0) := by
  obtain ⟨_, R, P, w0, so, hR, hP, hc, hsw⟩ := routerHop_ok h
  have k := pairSwap_ok hsw
  exact ⟨R, P, so, hR, hP, (payout_paid hc).1, k.side, k.ask_other,
    fun hpr hne => sim_eq_of_swap hP hne (Ne.symm hpr) hc hsw, credit_swap_add hc hsw⟩

theorem hop_spends_whole_balance {w w' : World} {o a : Asset} {to : Option Nat}
    (h : routerHop w w.router o a to = .ok w') :
    ∃ R P, facLookup w o a = some R ∧ w.pair R.pair = some P ∧ bal w o w.router ≠ 0 ∧
      (R.pair ≠ w.router → P.a0 ≠ P.a1 → bal w' o w.router = 0) := by
  obtain ⟨R, P, so, hR, hP, h0, _, hask, _, hadd⟩ := hop_effect h
  refine ⟨R, P, hR, hP, h0, fun hpr hne => ?_⟩
  have hao : so.ask ≠ o := hask ▸ P.other_ne hne o
  have e := hadd o w.router
  rw [if_pos ⟨rfl, rfl⟩, if_neg (fun e => hao e.1.symm), if_neg (fun e => hpr e.2.symm),
    if_neg (fun e => hao e.1.symm)] at e
  exact Nat.add_eq_right.1 e

theorem hop_full {w w1 : World} {o a : Asset} {tgt : Option Nat} {R : Record} {P : PairSt}
    (hR : facLookup w o a = some R) (hP : w.pair R.pair = some P)
    (hPa : (P.a0 = o ∧ P.a1 = a) ∨ (P.a0 = a ∧ P.a1 = o)) (hoa : o ≠ a)
    (hpr : R.pair ≠ w.router)
    (h : routerHop w w.router o a tgt = .ok w1) :
    ∃ n s k, bal w o w.router ≠ 0 ∧
      qSimulation w R.pair o (bal w o w.router) = .ok (n, s, k) ∧
      (∀ c z, bal w1 c z + (if c = o ∧ z = w.router then bal w o w.router else 0) +
            (if c = a ∧ z = R.pair then n else 0) =
          bal w c z + (if c = o ∧ z = R.pair then bal w o w.router else 0) +
            (if c = a ∧ z = tgt.getD w.router then n else 0)) ∧
      Same w w1 ∧ SameToks w w1 := by
  obtain ⟨R', P', so, hR', hP', h0, _, hask, hsim, hadd⟩ := hop_effect h
  cases hR.symm.trans hR'
  cases hP.symm.trans hP'
  have hne : P.a0 ≠ P.a1 := by
    rcases hPa with ⟨e0, e1⟩ | ⟨e0, e1⟩
    · rw [e0, e1]; exact hoa
    · rw [e0, e1]; exact Ne.symm hoa
  have hsa : so.ask = a := by
    rcases hPa with ⟨e0, e1⟩ | ⟨e0, e1⟩
    · rw [hask, ← e0, P.other_a0, e1]
    · rw [hask, ← e1, P.other_a1 hne, e0]
  rw [hsa] at hadd
  exact ⟨so.ret, so.spread, so.comm, h0, hsim hpr hne, hadd, routerHop_same h⟩

/-- the hop equation read at the router `r`, which spends its whole balance of `o`, at the pair `p`, at any other
account, and at any other asset -/
theorem hopEq_cases {w w1 : World} {o a : Asset} {p r rc n : Nat} (hoa : o ≠ a) (hrp : r ≠ p)
    (hadd : ∀ c z, bal w1 c z + (if c = o ∧ z = r then bal w o r else 0) + (if c = a ∧ z = p then n else 0) =
        bal w c z + (if c = o ∧ z = p then bal w o r else 0) + (if c = a ∧ z = rc then n else 0)) :
    bal w1 o r = 0 ∧
    (∀ c, c ≠ o → bal w1 c r = bal w c r + (if r = rc ∧ c = a then n else 0)) ∧
    (∀ c, bal w1 c p + (if c = a then n else 0) =
      bal w c p + (if c = o then bal w o r else 0) + (if p = rc ∧ c = a then n else 0)) ∧
    (∀ c z, z ≠ r → z ≠ p → bal w1 c z = bal w c z + (if z = rc ∧ c = a then n else 0)) ∧
    (∀ c, c ≠ o → c ≠ a → ∀ z, bal w1 c z = bal w c z) := by
  have hc : ∀ (c : Asset) (z : Nat), (c = a ∧ z = rc) ↔ (z = rc ∧ c = a) := fun _ _ => and_comm
  simp only [hc] at hadd
  refine ⟨?_, fun c hco => ?_, fun c => ?_, fun c z hzr hzp => ?_, fun c hco hca z => ?_⟩
  · have e := hadd o r
    simp only [hoa, hrp, and_false, and_self, if_false, if_true, Nat.add_zero] at e
    exact Nat.add_eq_right.1 e
  · have e := hadd c r
    simp only [hco, hrp, and_false, false_and, if_false, Nat.add_zero] at e
    exact e
  · have e := hadd c p
    simp only [Ne.symm hrp, and_false, and_true, if_false, Nat.add_zero] at e
    exact e
  · have e := hadd c z
    simp only [hzr, hzp, and_false, if_false, Nat.add_zero] at e
    exact e
  · have e := hadd c z
    simp only [hco, hca, false_and, and_false, if_false, Nat.add_zero] at e
    exact e

theorem single_hop_passthrough {name : Asset → String} {w w' : World} {sender : Nat} {o a : Asset}
    {mn to : Option Nat} {R : Record} {P : PairSt}
    (hR : facLookup w o a = some R) (hP : w.pair R.pair = some P)
    (hPa : (P.a0 = o ∧ P.a1 = a) ∨ (P.a0 = a ∧ P.a1 = o))
    (_hne : P.a0 ≠ P.a1) (hoa : o ≠ a)
    (hpr : R.pair ≠ w.router) (hrcv1 : to.getD sender ≠ w.router) (hrcv2 : to.getD sender ≠ R.pair)
    (h : routerSwapOps name w sender [(o, a)] mn to = .ok w') :
    ∃ n, routerSimulateTop w (bal w o w.router) [(o, a)] = .ok n ∧
      bal w' a (to.getD sender) = bal w a (to.getD sender) + n ∧
      bal w' o w.router = 0 ∧ bal w' a w.router = bal w a w.router ∧
      (∀ b, b ≠ a → bal w' b (to.getD sender) = bal w b (to.getD sender)) := by
  have hh := routerSwapOps_hops h
  obtain ⟨n, s, k, _, hsim, hadd, _⟩ := hop_full (tgt := some (to.getD sender)) hR hP hPa hoa hpr hh
  obtain ⟨hz, Er, _, Eo, _⟩ := hopEq_cases hoa (Ne.symm hpr) hadd
  refine ⟨n, ?_, ?_, hz, ?_, fun b hb => ?_⟩
  · exact (routerSimulateTop_cons ..).trans (router_sim_cons hR hsim)
  · rw [Eo a _ hrcv1 hrcv2, if_pos ⟨rfl, rfl⟩]
  · rw [Er a (Ne.symm hoa), if_neg (fun e => hrcv1 e.1.symm)]
    rfl
  · rw [Eo b _ hrcv1 hrcv2, if_neg (fun e => hb e.2)]
    rfl

end Halo.C13
