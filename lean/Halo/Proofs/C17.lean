/-
C17 proofs — the decimals fan-out of `AddNativeTokenDecimals {d, k}`, computed exactly in a world with `RegOK`: the loop over
the registry rewrites every entry in place (`fanOut1_eq`, `fanOut_fold_eq`: the keys are sorted and each entry is found
under its own key) and queues one message per registered pair that contains the denom (`msgOf`); the messages reach
distinct pairs (`fanOutMsgs_spec`).  `addDecimals_char` collects what changed as the record `AddedDecimals`; the statements
of `Halo/Props/C17.lean` are read off it.  The names are in namespace `RegOKP`.
-/
import Halo.Inv
import Halo.Proofs.C19
import Halo.Proofs.Handlers

namespace Halo.RegOKP
open Halo.C19

def hasDenom (d : Nat) (R : Record) : Prop := R.a0 = .native d ∨ R.a1 = .native d

/-- the record after re-registration of `d` with decimals `k` -/
def updRec (d k : Nat) (R : Record) : Record :=
  { R with d0 := if R.a0 = .native d then k else R.d0, d1 := if R.a1 = .native d then k else R.d1 }

def updEntry (d k : Nat) (e : Bytes × Record) : Bytes × Record := (e.1, updRec d k e.2)

/-- the message the fan-out queues for an entry -/
def msgOf (d k : Nat) (e : Bytes × Record) : List (Nat × Nat × Nat) :=
  if e.2.a0 = .native d ∨ e.2.a1 = .native d then [(e.2.pair, (updRec d k e.2).d0, (updRec d k e.2).d1)] else []

theorem mem_msgOf {d k : Nat} {e : Bytes × Record} {m : Nat × Nat × Nat} :
    m ∈ msgOf d k e ↔ hasDenom d e.2 ∧ m = (e.2.pair, (updRec d k e.2).d0, (updRec d k e.2).d1) := by
  unfold msgOf hasDenom
  split <;> simp [*]

theorem map_fst_updEntry (d k : Nat) (l : List (Bytes × Record)) :
    (l.map (updEntry d k)).map Prod.fst = l.map Prod.fst := by
  rw [List.map_map]
  rfl

theorem updRec_of_not {d k : Nat} {R : Record} (h : ¬ hasDenom d R) : updRec d k R = R := by
  unfold hasDenom at h
  have h0 : ¬ R.a0 = .native d := fun e => h (.inl e)
  have h1 : ¬ R.a1 = .native d := fun e => h (.inr e)
  simp only [updRec, h0, h1, if_false]

/-- one iteration at the entry `e` of a sorted registry: `e` is rewritten in place, whatever stands before it -/
theorem fanOut1_eq (d k : Nat) (w : World) (msgs : List (Nat × Nat × Nat)) (pre rest : List (Bytes × Record))
    (e : Bytes × Record)
    (hreg : w.registry = pre ++ e :: rest)
    (hs : (pre ++ e :: rest).Pairwise (fun e f => e.1 < f.1))
    (hk : e.1 = pairKey (w.rawId e.2.a0) (w.rawId e.2.a1))
    (hd : e.2.a0 ≠ e.2.a1) :
    facFanOut1 d k (w, msgs) e =
      .ok ({ w with registry := pre ++ updEntry d k e :: rest }, msgs ++ msgOf d k e) := by
  obtain ⟨ek, R⟩ := e
  simp only at hk hd
  have hlook : regLookup (pairKey (w.rawId R.a0) (w.rawId R.a1)) w.registry = some R := by
    rw [← hk, hreg]
    exact regLookup_of_mem hs (e := (ek, R)) (by simp)
  unfold facFanOut1
  simp only [hlook]
  rw [← hk]
  by_cases h0 : R.a0 = .native d
  · have h1 : ¬ R.a1 = .native d := fun h1 => hd (h0.trans h1.symm)
    simp only [h0, h1, if_true, if_false, msgOf, updEntry, updRec, true_or]
    rw [hreg, regInsert_replace _ _ _ _ _ hs]
  · by_cases h1 : R.a1 = .native d
    · simp only [h0, h1, if_true, if_false, msgOf, updEntry, updRec, or_true]
      rw [hreg, regInsert_replace _ _ _ _ _ hs]
    · simp only [h0, h1, if_false, msgOf, updEntry, updRec, or_self, List.append_nil]
      show Except.ok (w, msgs) = Except.ok ({ w with registry := pre ++ (ek, R) :: rest }, msgs)
      rw [← hreg]

theorem fanOut_fold_eq (d k : Nat) : ∀ (l pre : List (Bytes × Record)) (w : World) (msgs : List (Nat × Nat × Nat)),
    w.registry = pre ++ l →
    (pre ++ l).Pairwise (fun e f => e.1 < f.1) →
    (∀ e ∈ l, e.1 = pairKey (w.rawId e.2.a0) (w.rawId e.2.a1)) →
    (∀ e ∈ l, e.2.a0 ≠ e.2.a1) →
    l.foldlM (facFanOut1 d k) (w, msgs) =
      .ok ({ w with registry := pre ++ l.map (updEntry d k) }, msgs ++ l.flatMap (msgOf d k))
  | [], pre, w, msgs, hreg, _, _, _ => by
    rw [List.append_nil] at hreg
    rw [List.foldlM_nil, List.flatMap_nil, List.map_nil, List.append_nil, List.append_nil, ← hreg]
    rfl
  | e :: rest, pre, w, msgs, hreg, hs, hk, hd => by
    rw [List.foldlM_cons, fanOut1_eq d k w msgs pre rest e hreg hs (hk e List.mem_cons_self) (hd e List.mem_cons_self)]
    -- the rewritten entry joins the prefix: the keys are as before
    have ih := fanOut_fold_eq d k rest (pre ++ [updEntry d k e])
      { w with registry := pre ++ updEntry d k e :: rest } (msgs ++ msgOf d k e)
      (List.append_cons ..) (sorted_of_keys_eq (by simp [updEntry]) hs)
      (fun e' he' => hk e' (List.mem_cons_of_mem _ he')) (fun e' he' => hd e' (List.mem_cons_of_mem _ he'))
    rw [ok_bind, ih, List.append_assoc, List.append_assoc, List.flatMap_cons, List.map_cons]
    rfl

/-- everything but the pair states is unchanged -/
structure PairOnly (w w' : World) : Prop where
  bank : w'.bank = w.bank
  tok : w'.tok = w.tok
  registry : w'.registry = w.registry
  facAddr : w'.facAddr = w.facAddr
  denoms : w'.denoms = w.denoms
  rawId : w'.rawId = w.rawId
  badAddr : w'.badAddr = w.badAddr

theorem PairOnly.refl (w : World) : PairOnly w w := ⟨rfl, rfl, rfl, rfl, rfl, rfl, rfl⟩

theorem fanOutMsgs_pairOnly {d : Nat} {l : List (Nat × Nat × Nat)} {w w' : World}
    (h : facFanOutMsgs d w l = .ok w') : PairOnly w w' := by
  obtain ⟨pr, rfl, _⟩ := facFanOutMsgs_world l h
  exact ⟨rfl, rfl, rfl, rfl, rfl, rfl, rfl⟩

/-- the queued updates read off the message list alone: a pair that gets no message keeps its state, a pair that
gets one (and no second) is rewritten by it -/
theorem fanOutMsgs_spec {d : Nat} : ∀ (ms : List (Nat × Nat × Nat)) {w w' : World},
    ms.Pairwise (fun m n => m.1 ≠ n.1) → facFanOutMsgs d w ms = .ok w' →
    (∀ q, (∀ m ∈ ms, m.1 ≠ q) → w'.pair q = w.pair q) ∧
    (∀ m ∈ ms, ∃ P, w.pair m.1 = some P ∧ w'.pair m.1 = some (updDecimals P d m.2.1 m.2.2))
  | [], w, w', _, h => by
    cases h
    exact ⟨fun _ _ => rfl, fun m hm => by cases hm⟩
  | (p, da, db) :: rest, w, w', hp, h => by
    obtain ⟨hhd, hrest⟩ := List.pairwise_cons.1 hp
    simp only [facFanOutMsgs, bind_ok_iff] at h
    obtain ⟨w1, h1, h2⟩ := h
    obtain ⟨P, hP, _, rfl⟩ := pairUpdateDecimals_ok h1
    obtain ⟨ih1, ih2⟩ := fanOutMsgs_spec rest hrest h2
    constructor
    · intro q hq
      rw [ih1 q fun m hm => hq m (List.mem_cons_of_mem _ hm)]
      exact if_neg (hq _ List.mem_cons_self).symm
    · intro m hm
      rcases List.mem_cons.1 hm with rfl | hm
      · exact ⟨P, hP, (ih1 p fun n hn => (hhd n hn).symm).trans (if_pos rfl)⟩
      · obtain ⟨P', hP', hw'⟩ := ih2 m hm
        exact ⟨P', (if_neg (hhd m hm).symm).symm.trans hP', hw'⟩

theorem update_moves_nothing {w w' : World} {s d k : Nat} (h : facAddDecimals w s d k = .ok w') :
    w'.bank = w.bank ∧ w'.tok = w.tok :=
  ⟨(facAddDecimals_configOnly h).bank, (facAddDecimals_configOnly h).tok⟩

/-- all that a successful `AddNativeTokenDecimals {d, k}` changes in a world with `RegOK`: the denom's entry, the decimals
in every record (`updEntry`), and the state of exactly the registered pairs that contain the denom -/
structure AddedDecimals (w w' : World) (d k : Nat) : Prop where
  facAddr : w'.facAddr = w.facAddr
  rawId : w'.rawId = w.rawId
  denoms : w'.denoms = fun x => if x = d then some k else w.denoms x
  registry : w'.registry = w.registry.map (updEntry d k)
  others : ∀ p, (∀ e ∈ w.registry, hasDenom d e.2 → e.2.pair ≠ p) → w'.pair p = w.pair p
  reached : ∀ e ∈ w.registry, hasDenom d e.2 → ∃ P, w.pair e.2.pair = some P ∧
    w'.pair e.2.pair = some { P with d0 := (updRec d k e.2).d0, d1 := (updRec d k e.2).d1 }

theorem addDecimals_char {w w' : World} {s d k : Nat} (hr : RegOK w) (h : facAddDecimals w s d k = .ok w') :
    AddedDecimals w w' d k := by
  obtain ⟨_, _, w1, rfl, ⟨_, w2, msgs, h1, h2⟩ | ⟨hex, rfl⟩⟩ := facAddDecimals_ok h
  · rw [fanOut_fold_eq d k w.registry [] { w with denoms := fun x => if x = d then some k else w.denoms x } []
      rfl hr.sorted hr.keyed hr.distinctAssets] at h1
    obtain ⟨rfl, rfl⟩ := Prod.mk.inj (Except.ok.inj h1)
    have po := fanOutMsgs_pairOnly h2
    -- one message per registered pair with the denom, so no pair gets two
    have hp : (w.registry.flatMap (msgOf d k)).Pairwise (fun m n => m.1 ≠ n.1) := by
      refine List.pairwise_flatMap.2 ⟨fun e _ => ?_, hr.distinctPairs.imp fun hne m hm n hn => ?_⟩
      · unfold msgOf; split
        · exact List.pairwise_singleton _ _
        · exact .nil
      · rw [(mem_msgOf.1 hm).2, (mem_msgOf.1 hn).2]; exact hne
    obtain ⟨s1, s2⟩ := fanOutMsgs_spec _ hp h2
    refine ⟨po.facAddr, po.rawId, po.denoms, po.registry, fun p hpp => s1 p fun m hm => ?_, fun e he hc => ?_⟩
    · obtain ⟨e, he, hme⟩ := List.mem_flatMap.1 hm
      obtain ⟨hc, rfl⟩ := mem_msgOf.1 hme
      exact hpp e he hc
    · obtain ⟨P, hP, hw'⟩ := s2 _ (List.mem_flatMap.2 ⟨e, he, mem_msgOf.2 ⟨hc, rfl⟩⟩)
      obtain ⟨P0, hP0, a0, a1, _⟩ := hr.matched e he
      obtain rfl : P0 = P := Option.some.inj (hP0.symm.trans hP)
      exact ⟨P0, hP, hw'.trans (congrArg some (if_pos (by rw [a0, a1]; exact hc)))⟩
  · have hno : ∀ e ∈ w.registry, ¬ hasDenom d e.2 := fun e he hc => hex (hr.denomsKnown e he d hc)
    refine ⟨rfl, rfl, rfl, .symm ?_, fun _ _ => rfl, fun e he hc => absurd hc (hno e he)⟩
    refine (List.map_congr_left (g := id) fun e he => ?_).trans (List.map_id _)
    rw [updEntry, updRec_of_not (hno e he)]
    rfl

theorem distinct_pair_eq {w : World} (hr : RegOK w) {e f : Bytes × Record} (he : e ∈ w.registry)
    (hf : f ∈ w.registry) (h : e.2.pair = f.2.pair) : e = f :=
  (List.Pairwise.forall_of_forall_of_flip (R := fun e f => e = f ∨ e.2.pair ≠ f.2.pair) (fun _ _ => .inl rfl)
    (hr.distinctPairs.imp .inr) (hr.distinctPairs.imp fun h => .inr h.symm) he hf).resolve_right (not_not.2 h)

theorem recMatches_after {w w' : World} {s d k : Nat} (hr : RegOK w) (h : facAddDecimals w s d k = .ok w')
    {e : Bytes × Record} (he : e ∈ w.registry) : recMatches w' (updRec d k e.2) := by
  have F := addDecimals_char hr h
  obtain ⟨P, hP, a0, a1, d0, d1, lp, cm, rq, fc⟩ := hr.matched e he
  rw [← F.facAddr] at fc
  by_cases hc : hasDenom d e.2
  · obtain ⟨P', hP', hw'⟩ := F.reached e he hc
    rw [hP] at hP'; injection hP' with hP'; subst hP'
    exact ⟨_, hw', a0, a1, rfl, rfl, lp, cm, rq, fc⟩
  · have hsame : w'.pair e.2.pair = w.pair e.2.pair :=
      F.others _ (fun e' he' hc' hp => hc (by rw [distinct_pair_eq hr he he' hp.symm]; exact hc'))
    rw [updRec_of_not hc]
    exact ⟨P, by rw [hsame]; exact hP, a0, a1, d0, d1, lp, cm, rq, fc⟩

theorem update_reaches_all {w w' : World} {s d k : Nat} (hr : RegOK w) (_hraw : RawOK w)
    (h : facAddDecimals w s d k = .ok w') :
    w'.denoms d = some k ∧
    w'.registry.map (·.1) = w.registry.map (·.1) ∧
    (∀ e' ∈ w'.registry, ∃ e ∈ w.registry, e.1 = e'.1 ∧
        e'.2.a0 = e.2.a0 ∧ e'.2.a1 = e.2.a1 ∧ e'.2.pair = e.2.pair ∧ e'.2.lp = e.2.lp ∧ e'.2.req = e.2.req ∧ e'.2.comm = e.2.comm ∧
        e'.2.d0 = (if e.2.a0 = .native d then k else e.2.d0) ∧
        e'.2.d1 = (if e.2.a1 = .native d then k else e.2.d1) ∧
        recMatches w' e'.2) := by
  have F := addDecimals_char hr h
  refine ⟨by rw [F.denoms]; exact if_pos rfl, by rw [F.registry]; exact map_fst_updEntry d k _, ?_⟩
  rw [F.registry]
  exact List.forall_mem_map.2 fun e he =>
    ⟨e, he, rfl, rfl, rfl, rfl, rfl, rfl, rfl, rfl, rfl, recMatches_after hr h he⟩

theorem update_others_untouched {w w' : World} {s d k : Nat} (hr : RegOK w) (_hraw : RawOK w)
    (h : facAddDecimals w s d k = .ok w') (p : Nat) (P : PairSt) (hP : w.pair p = some P)
    (h0 : P.a0 ≠ .native d) (h1 : P.a1 ≠ .native d) : w'.pair p = some P := by
  rw [(addDecimals_char hr h).others p ?_]
  · exact hP
  intro e he hc hp
  obtain ⟨P', hP', a0, a1, _⟩ := hr.matched e he
  rw [hp, hP] at hP'; injection hP' with hP'; subst hP'
  rcases hc with hc | hc
  · exact h0 (a0.trans hc)
  · exact h1 (a1.trans hc)

end Halo.RegOKP
