/-
Reach — clauses of the properties that talk about *every later state*: what the factory registered stays
registered (C16), the registry invariant along histories (C16), who can change an LP token's supply (C07), a
pair's commission rate and its other fixed fields (C06).  (The reserved unit, C05, rests on `PairInv`: it stands
with `pairInv_run` in `C03G.lean`.)
-/
import Halo.Proofs.Runs
import Halo.Proofs.RegOK
import Halo.Proofs.C07
import Halo.Proofs.Flows

namespace Halo.Reach
open Halo.RegOKP

/-- every step allocates fresh addresses -/
def FreshRun (name : Asset → String) : World → List Op → Prop := StepsOK name FreshOK

/-- the side conditions of `regOK_step`: a message to a pair is not sent by the factory contract itself, and a
new pair contract is allocated an unused pair address -/
def RegStepOK (w : World) (op : Op) : Prop :=
  (∀ s p f m, op = .pair s p f m → s ≠ w.facAddr) ∧
  (∀ s f a0 a1 req c ld np nl, op = .factory s f (.createPair a0 a1 req c ld np nl) → w.pair np = none)

/-- `RegStepOK` at every step of a history (the style of `ValidRun`, which implies it) -/
def RegRun (name : Asset → String) : World → List Op → Prop := StepsOK name RegStepOK

/-- the new pair address of a `CreatePair` is not in use as a pair (all of `FreshOK` that the static facts need) -/
def FreshPairAddr (w : World) (op : Op) : Prop :=
  ∀ s f a0 a1 req c ld np nl, op = .factory s f (.createPair a0 a1 req c ld np nl) → w.pair np = none

theorem freshPairAddr_of_freshOK {w : World} {op : Op} (hf : FreshOK w op) : FreshPairAddr w op :=
  fun s f a0 a1 req c ld np nl e => (hf s f a0 a1 req c ld np nl e).1

theorem regStepOK_of_valid (w : World) (op : Op) (hv : ValidOp w op) : RegStepOK w op := by
  refine ⟨?_, freshPairAddr_of_freshOK hv.fresh⟩
  intro s p f m e
  have := hv.actor.ne_factory
  rw [e] at this
  exact this

/-! ### C16: lookups -/

theorem lookup_distinct_addr {w : World} (hr : RegOK w) (hraw : RawOK w) {a b c d : Asset} {R1 R2 : Record}
    (h1 : facLookup w a b = some R1) (h2 : facLookup w c d = some R2) (hp : R1.pair = R2.pair) :
    ((w.rawId a = w.rawId c ∧ w.rawId b = w.rawId d) ∨ (w.rawId a = w.rawId d ∧ w.rawId b = w.rawId c)) ∧
    (Live w a → Live w b → Live w c → Live w d → (a = c ∧ b = d) ∨ (a = d ∧ b = c)) := by
  have m1 := Halo.C19.mem_of_regLookup h1
  have m2 := Halo.C19.mem_of_regLookup h2
  have e := distinct_pair_eq hr m1 m2 hp
  have : R1 = R2 := congrArg Prod.snd e
  subst this
  exact lookup_distinct hr hraw h1 h2

theorem created_registered {w w' : World} {s : Nat} {a0 a1 : Asset} {req : Requirements} {comm lpDec : Option Nat}
    {np nl : Nat} (hr : RegOK w) (h : facCreatePair w s a0 a1 req comm lpDec np nl = .ok w') :
    ∃ R, facLookup w' a0 a1 = some R ∧ facLookup w' a1 a0 = some R ∧ R.pair = np ∧ R.lp = nl ∧ R.a0 = a0 ∧
      R.a1 = a1 := by
  obtain ⟨d0, d1, rfl⟩ := facCreatePair_world h
  have hl' := (Halo.C19.regLookup_regInsert (pairKey (w.rawId a0) (w.rawId a1)) _
    (newRecord a0 a1 req comm np nl d0 d1) w.registry).trans (if_pos rfl)
  exact ⟨_, hl', (lookup_comm ..).trans hl', rfl, rfl, rfl, rfl⟩

theorem create_records_decimals {w w' : World} {s : Nat} {a0 a1 : Asset} {req : Requirements}
    {comm lpDec : Option Nat} {np nl : Nat} (h : facCreatePair w s a0 a1 req comm lpDec np nl = .ok w') :
    ∃ P, w'.pair np = some P ∧ P.a0 = a0 ∧ P.a1 = a1 ∧ P.lp = nl ∧
      assetDecimals w a0 = .ok P.d0 ∧ assetDecimals w a1 = .ok P.d1 := by
  obtain ⟨d0, d1, k⟩ := facCreatePair_ok h
  exact ⟨_, k.pair_new, rfl, rfl, rfl, k.dec0, k.dec1⟩

/-! ### C06: the fields of a pair that never change -/

/-- every pair contract persists and keeps everything but its decimals -/
def PairFix (w w' : World) : Prop :=
  ∀ p P, w.pair p = some P → ∃ P', w'.pair p = some P' ∧ P'.comm = P.comm ∧ P'.a0 = P.a0 ∧ P'.a1 = P.a1 ∧
    P'.lp = P.lp ∧ P'.req = P.req ∧ P'.factory = P.factory

theorem PairFix.refl (w : World) : PairFix w w := fun _ P h => ⟨P, h, rfl, rfl, rfl, rfl, rfl, rfl⟩

theorem PairFix.trans {a b c : World} (h1 : PairFix a b) (h2 : PairFix b c) : PairFix a c := by
  intro p P hP
  obtain ⟨P1, hP1, e1, e2, e3, e4, e5, e6⟩ := h1 p P hP
  obtain ⟨P2, hP2, f1, f2, f3, f4, f5, f6⟩ := h2 p P1 hP1
  exact ⟨P2, hP2, f1.trans e1, f2.trans e2, f3.trans e3, f4.trans e4, f5.trans e5, f6.trans e6⟩

theorem pairFix_of_eq {w w' : World} (h : w'.pair = w.pair) : PairFix w w' :=
  fun _ P hP => ⟨P, by rw [h]; exact hP, rfl, rfl, rfl, rfl, rfl, rfl⟩

theorem pairFix_cfgStep {w w' : World} {op : Op} (hf : FreshPairAddr w op) (h : cfgStep w op = .ok w') :
    PairFix w w' := by
  rcases cfgStep_cases h with hd | ⟨s, f, a0, a1, req, c, ld, np, nl, P, reg, rfl, rfl⟩
  · intro q Q hQ
    obtain ⟨da, db, h'⟩ := hd.pairSome q Q hQ
    exact ⟨_, h', rfl, rfl, rfl, rfl, rfl, rfl⟩
  · intro q Q hQ
    have hq : q ≠ np := fun e => by rw [e, hf _ _ _ _ _ _ _ _ _ rfl] at hQ; cases hQ
    exact ⟨Q, (if_neg hq).trans hQ, rfl, rfl, rfl, rfl, rfl, rfl⟩

theorem pairFix_exec {name : Asset → String} {w w' : World} {op : Op} {out : Out}
    (hf : FreshPairAddr w op) (h : exec name w op = .ok (w', out)) : PairFix w w' := by
  obtain ⟨w0, hl, hc⟩ := exec_split h
  have hs := hl.kept.toSame
  exact (pairFix_of_eq hs.pair).trans
    (pairFix_cfgStep (fun s f a0 a1 req c ld np nl e => by rw [hs.pair]; exact hf s f a0 a1 req c ld np nl e) hc)

theorem commission_fixed {name : Asset → String} {w w' : World} {op : Op} {out : Out} {p : Nat} {P : PairSt}
    (hf : FreshOK w op) (h : exec name w op = .ok (w', out)) (hP : w.pair p = some P) :
    ∃ P', w'.pair p = some P' ∧ P'.comm = P.comm ∧ P'.a0 = P.a0 ∧ P'.a1 = P.a1 ∧ P'.lp = P.lp ∧
      P'.req = P.req ∧ P'.factory = P.factory :=
  pairFix_exec (freshPairAddr_of_freshOK hf) h p P hP

theorem commission_fixed_run {name : Asset → String} (ops : List Op) (w : World) (hf : FreshRun name w ops)
    {p : Nat} {P : PairSt} (hP : w.pair p = some P) :
    ∃ P', (run name w ops).pair p = some P' ∧ P'.comm = P.comm ∧ P'.a0 = P.a0 ∧ P'.a1 = P.a1 ∧ P'.lp = P.lp ∧
      P'.req = P.req ∧ P'.factory = P.factory :=
  run_induct (C := FreshOK) (I := fun v => PairFix w v)
    (fun _ _ _ _ hc hE hi => hi.trans (pairFix_exec (freshPairAddr_of_freshOK hc) hE)) ops w hf (PairFix.refl w) p P hP

theorem commission_le_one {w w' : World} {s : Nat} {a0 a1 : Asset} {req : Requirements} {comm lpDec : Option Nat}
    {np nl : Nat} (h : facCreatePair w s a0 a1 req comm lpDec np nl = .ok w') :
    ∃ P, w'.pair np = some P ∧ P.comm = comm.getD defaultCommission ∧ P.comm ≤ E := by
  obtain ⟨d0, d1, k⟩ := facCreatePair_ok h
  exact ⟨_, k.pair_new, rfl, k.comm_le_one⟩

theorem commission_le_one_forever {name : Asset → String} {w w' : World} {s : Nat} {a0 a1 : Asset}
    {req : Requirements} {comm lpDec : Option Nat} {np nl : Nat}
    (h : facCreatePair w s a0 a1 req comm lpDec np nl = .ok w') (ops : List Op) (hf : FreshRun name w' ops) :
    ∃ P, (run name w' ops).pair np = some P ∧ P.comm = comm.getD defaultCommission ∧ P.comm ≤ E ∧
      P.a0 = a0 ∧ P.a1 = a1 ∧ P.lp = nl := by
  obtain ⟨d0, d1, k⟩ := facCreatePair_ok h
  obtain ⟨P', hP', f1, f2, f3, f4, _, _⟩ := commission_fixed_run ops w' hf k.pair_new
  exact ⟨P', hP', f1, f1 ▸ k.comm_le_one, f2, f3, f4⟩

/-! ### C16: `RawOK` along histories -/

/-- environment: the asset an operation makes live (`NewLive`: the LP token the chain instantiates for a created
pair, the denom of an `AddNativeTokenDecimals`) carries a raw identifier that no OTHER live asset carries.  (For an
asset that is live already — a denom that is re-registered — this follows from `RawOK`.) -/
def RawFreshOK (w : World) (op : Op) : Prop :=
  ∀ a b, Live w a → NewLive op b → a ≠ b → w.rawId a ≠ w.rawId b

/-- `RawFreshOK` at every step of a history -/
def RawRun (name : Asset → String) : World → List Op → Prop := StepsOK name RawFreshOK

theorem rawFreshOK_of_no_new {w : World} {op : Op} (h : ∀ b, ¬ NewLive op b) : RawFreshOK w op :=
  fun _ b _ hb => absurd hb (h b)

theorem rawFreshOK_createPair {w : World} {s : Nat} {f : List (Nat × Nat)} {a0 a1 : Asset} {req : Requirements}
    {c ld : Option Nat} {np nl : Nat} :
    RawFreshOK w (.factory s f (.createPair a0 a1 req c ld np nl)) ↔
      ∀ a, Live w a → a ≠ .token nl → w.rawId a ≠ w.rawId (.token nl) :=
  ⟨fun h a la => h a _ la (newLive_createPair.2 rfl), fun h a _ la hb => newLive_createPair.1 hb ▸ h a la⟩

theorem rawFreshOK_addDecimals {w : World} {s : Nat} {f : List (Nat × Nat)} {d k : Nat} :
    RawFreshOK w (.factory s f (.addDecimals d k)) ↔
      ∀ a, Live w a → a ≠ .native d → w.rawId a ≠ w.rawId (.native d) :=
  ⟨fun h a la => h a _ la (newLive_addDecimals.2 rfl), fun h a _ la hb => newLive_addDecimals.1 hb ▸ h a la⟩

/-- one operation: no operation changes `rawId`, liveness is never revoked, and the one asset the operation may make
live has a fresh raw identifier -/
theorem rawOK_step {name : Asset → String} {w w' : World} {op : Op} {out : Out} (hraw : RawOK w)
    (hf : RawFreshOK w op) (h : exec name w op = .ok (w', out)) : RawOK w' := by
  have hid := (envEq_exec h).rawId
  refine ⟨?_, by rw [hid]; exact hraw.short⟩
  intro a b la lb e
  rw [hid] at e
  rcases (live_exec_new h a).2 la with la | na <;> rcases (live_exec_new h b).2 lb with lb | nb
  · exact hraw.inj a b la lb e
  · by_contra hne
    exact hf a b la nb hne e
  · by_contra hne
    exact hf b a lb na (Ne.symm hne) e.symm
  · exact newLive_unique na nb

/-- `RawOK` holds after every history in which newly live assets get fresh raw identifiers: no operation changes
`rawId`, but `RawOK` speaks about the live assets, and their set grows -/
theorem rawOK_run {name : Asset → String} (ops : List Op) (w : World) (hraw : RawOK w) (hrun : RawRun name w ops) :
    RawOK (run name w ops) :=
  run_induct (C := RawFreshOK) (I := RawOK) (fun _ _ _ _ hc hE hi => rawOK_step hi hc hE) ops w hrun hraw

/-! ### C16: the registry only grows -/

/-- a record with the same identity: everything but the decimals -/
def SameRec (R R' : Record) : Prop :=
  R'.pair = R.pair ∧ R'.lp = R.lp ∧ R'.a0 = R.a0 ∧ R'.a1 = R.a1 ∧ R'.req = R.req ∧ R'.comm = R.comm

/-- every registered key stays registered, for the same pair -/
def RegGrows (w w' : World) : Prop :=
  ∀ k R, regLookup k w.registry = some R → ∃ R', regLookup k w'.registry = some R' ∧ SameRec R R'

theorem RegGrows.refl (w : World) : RegGrows w w := fun _ R h => ⟨R, h, rfl, rfl, rfl, rfl, rfl, rfl⟩

theorem RegGrows.trans {a b c : World} (h1 : RegGrows a b) (h2 : RegGrows b c) : RegGrows a c := by
  intro k R hR
  obtain ⟨R1, hR1, e1, e2, e3, e4, e5, e6⟩ := h1 k R hR
  obtain ⟨R2, hR2, f1, f2, f3, f4, f5, f6⟩ := h2 k R1 hR1
  exact ⟨R2, hR2, f1.trans e1, f2.trans e2, f3.trans e3, f4.trans e4, f5.trans e5, f6.trans e6⟩

theorem regGrows_of_eq {w w' : World} (h : w'.registry = w.registry) : RegGrows w w' :=
  fun _ R hR => ⟨R, by rw [h]; exact hR, rfl, rfl, rfl, rfl, rfl, rfl⟩

theorem regGrows_createPair {w w' : World} {s : Nat} {a0 a1 : Asset} {req : Requirements} {comm lpDec : Option Nat}
    {np nl : Nat} (h : facCreatePair w s a0 a1 req comm lpDec np nl = .ok w') : RegGrows w w' := by
  obtain ⟨d0, d1, c⟩ := facCreatePair_ok h
  obtain rfl := c.world
  intro k R hR
  have hne : k ≠ pairKey (w.rawId a0) (w.rawId a1) := by
    intro e
    rw [e, c.unregistered] at hR
    cases hR
  exact ⟨R, by rw [← hR]; exact Halo.C19.regLookup_insert_other _ _ _ _ hne, rfl, rfl, rfl, rfl, rfl, rfl⟩

theorem regGrows_addDecimals {w w' : World} {s d k : Nat} (hr : RegOK w) (h : facAddDecimals w s d k = .ok w') :
    RegGrows w w' := by
  intro key R hR
  refine ⟨updRec d k R, ?_, rfl, rfl, rfl, rfl, rfl, rfl⟩
  rw [(addDecimals_char hr h).registry]
  exact (Halo.C19.regLookup_map (updRec d k) key w.registry).trans (congrArg _ hR)

theorem regGrows_exec {name : Asset → String} {w w' : World} {op : Op} {out : Out} (hr : RegOK w)
    (h : exec name w op = .ok (w', out)) : RegGrows w w' := by
  obtain ⟨w0, hl, hc⟩ := exec_split h
  refine (regGrows_of_eq hl.kept.registry).trans ?_
  rcases cfgStep_pairOnly hc with ⟨po, _⟩ | ⟨s, f, d, k, _, hx⟩ | ⟨s, f, a0, a1, req, c, ld, np, nl, _, hx⟩
  · exact regGrows_of_eq po.registry
  · exact regGrows_addDecimals (regOK_same hl.kept.toSame hl.kept.toks hr) hx
  · exact regGrows_createPair hx

theorem registry_only_grows {name : Asset → String} {w w' : World} {op : Op} {out : Out} (hr : RegOK w)
    (h : exec name w op = .ok (w', out)) :
    ∀ k R, regLookup k w.registry = some R → ∃ R', regLookup k w'.registry = some R' ∧ R'.pair = R.pair ∧
      R'.lp = R.lp ∧ R'.a0 = R.a0 ∧ R'.a1 = R.a1 ∧ R'.req = R.req ∧ R'.comm = R.comm :=
  regGrows_exec hr h

/-! ### C16: the registry invariant along histories -/

theorem regOK_regGrows_run {name : Asset → String} (ops : List Op) (w : World) (hr : RegOK w)
    (hrun : RegRun name w ops) : RegOK (run name w ops) ∧ RegGrows w (run name w ops) :=
  run_induct (C := RegStepOK) (I := fun v => RegOK v ∧ RegGrows w v)
    (fun _ _ _ _ hc hE hi => ⟨regOK_step' hi.1 hc.1 hc.2 hE, hi.2.trans (regGrows_exec hi.1 hE)⟩)
    ops w hrun ⟨hr, RegGrows.refl w⟩

theorem regOK_run' {name : Asset → String} (ops : List Op) (w : World) (hr : RegOK w) (hraw : RawOK w)
    (hrun : RegRun name w ops) :
    RegOK (run name w ops) ∧ (RawRun name w ops → RawOK (run name w ops)) ∧ RegGrows w (run name w ops) :=
  ⟨(regOK_regGrows_run ops w hr hrun).1, rawOK_run ops w hraw, (regOK_regGrows_run ops w hr hrun).2⟩

theorem regOK_run {name : Asset → String} (ops : List Op) (w : World) (hr : RegOK w) (hraw : RawOK w)
    (hrun : RegRun name w ops) : RegOK (run name w ops) ∧ (RawRun name w ops → RawOK (run name w ops)) :=
  ⟨(regOK_regGrows_run ops w hr hrun).1, rawOK_run ops w hraw⟩

theorem registered_forever {name : Asset → String} (ops : List Op) (w : World) (hr : RegOK w) (_hraw : RawOK w)
    (hrun : RegRun name w ops) :
    ∀ k R, regLookup k w.registry = some R → ∃ R', regLookup k (run name w ops).registry = some R' ∧
      R'.pair = R.pair ∧ R'.lp = R.lp ∧ R'.a0 = R.a0 ∧ R'.a1 = R.a1 ∧ R'.req = R.req ∧ R'.comm = R.comm :=
  (regOK_regGrows_run ops w hr hrun).2

theorem lookup_forever {name : Asset → String} (ops : List Op) (w : World) (hr : RegOK w)
    (hrun : RegRun name w ops) {a b : Asset} {R : Record} (h : facLookup w a b = some R) :
    ∃ R', facLookup (run name w ops) a b = some R' ∧ facLookup (run name w ops) b a = some R' ∧
      R'.pair = R.pair ∧ R'.lp = R.lp ∧ R'.a0 = R.a0 ∧ R'.a1 = R.a1 ∧ R'.req = R.req ∧ R'.comm = R.comm := by
  obtain ⟨R', hR', e⟩ := (regOK_regGrows_run ops w hr hrun).2 _ R h
  have hl : facLookup (run name w ops) a b = some R' := by
    unfold facLookup; rw [(envEq_run (name := name) ops w).rawId]; exact hR'
  exact ⟨R', hl, (lookup_comm ..).trans hl, e⟩

theorem created_registered_forever {name : Asset → String} {w w' : World} {s : Nat} {a0 a1 : Asset}
    {req : Requirements} {comm lpDec : Option Nat} {np nl : Nat} (hr : RegOK w) (hraw : RawOK w)
    (hfresh : w.pair np = none) (h : facCreatePair w s a0 a1 req comm lpDec np nl = .ok w')
    (ops : List Op) (hrun : RegRun name w' ops) :
    ∃ R, facLookup (run name w' ops) a0 a1 = some R ∧ facLookup (run name w' ops) a1 a0 = some R ∧
      R.pair = np ∧ R.lp = nl ∧ R.a0 = a0 ∧ R.a1 = a1 := by
  obtain ⟨R, h1, _, e1, e2, e3, e4⟩ := created_registered hr h
  obtain ⟨R', l1, l2, f1, f2, f3, f4, _, _⟩ := lookup_forever ops w' (regOK_createPair hr hraw hfresh h) hrun h1
  exact ⟨R', l1, l2, f1.trans e1, f2.trans e2, f3.trans e3, f4.trans e4⟩

/-! ### C07: who can change the supply of an LP token -/

theorem lp_supply_changes_only {name : Asset → String} {w w' : World} {op : Op} {out : Out}
    (h : exec name w op = .ok (w', out)) (hf : FreshOK w op) (t : Nat) :
    supply w' t = supply w t ∨
    (∃ s q Q f as0 am0 as1 am1 tol r, w.pair q = some Q ∧ Q.lp = t ∧
        op = .pair s q f (.provide as0 am0 as1 am1 tol r)) ∨
    (∃ s q Q a, w.pair q = some Q ∧ Q.lp = t ∧ op = .tokSend t s q a .withdraw) ∨
    (∃ sp o q Q a, w.pair q = some Q ∧ Q.lp = t ∧ op = .tokSendFrom t sp o q a .withdraw) ∨
    (∃ q Q f from_ a, w.pair q = some Q ∧ Q.lp = t ∧ op = .pair t q f (.receive from_ a .withdraw)) ∨
    (∃ s a, op = .tokBurn t s a) ∨
    (∃ sp o a, op = .tokBurnFrom t sp o a) := by
  by_cases hq : LpChanger w op t
  · exact .inr hq
  · exact .inl ((C07.exec_moves_lp h).supply_frame hf hq)

theorem lp_supply_changes_only_pair {name : Asset → String} {w w' : World} {op : Op} {out : Out}
    (h : exec name w op = .ok (w', out)) (hf : FreshOK w op) (t p : Nat)
    (huniq : ∀ q Q, w.pair q = some Q → Q.lp = t → q = p) :
    supply w' t = supply w t ∨
    (∃ s f as0 am0 as1 am1 tol r, op = .pair s p f (.provide as0 am0 as1 am1 tol r)) ∨
    (∃ s a, op = .tokSend t s p a .withdraw) ∨
    (∃ sp o a, op = .tokSendFrom t sp o p a .withdraw) ∨
    (∃ f from_ a, op = .pair t p f (.receive from_ a .withdraw)) ∨
    (∃ s a, op = .tokBurn t s a) ∨
    (∃ sp o a, op = .tokBurnFrom t sp o a) := by
  rcases lp_supply_changes_only h hf t with e | ⟨s, q, Q, f, as0, am0, as1, am1, tol, r, hQ, hl, rfl⟩ |
    ⟨s, q, Q, a, hQ, hl, rfl⟩ | ⟨sp, o, q, Q, a, hQ, hl, rfl⟩ | ⟨q, Q, f, from_, a, hQ, hl, rfl⟩ | e
  · exact .inl e
  · rw [huniq q Q hQ hl]; exact .inr (.inl ⟨s, f, as0, am0, as1, am1, tol, r, rfl⟩)
  · rw [huniq q Q hQ hl]; exact .inr (.inr (.inl ⟨s, a, rfl⟩))
  · rw [huniq q Q hQ hl]; exact .inr (.inr (.inr (.inl ⟨sp, o, a, rfl⟩)))
  · rw [huniq q Q hQ hl]; exact .inr (.inr (.inr (.inr (.inl ⟨f, from_, a, rfl⟩))))
  · exact .inr (.inr (.inr (.inr (.inr e))))

theorem lp_supply_changes_only_valid {name : Asset → String} {w w' : World} {op : Op} {out : Out}
    (h : exec name w op = .ok (w', out)) (hv : ValidOp w op) (t : Nat) (hlive : (w.tok t).isSome) :
    supply w' t = supply w t ∨
    (∃ s q Q f as0 am0 as1 am1 tol r, w.pair q = some Q ∧ Q.lp = t ∧
        op = .pair s q f (.provide as0 am0 as1 am1 tol r)) ∨
    (∃ s q Q a, w.pair q = some Q ∧ Q.lp = t ∧ op = .tokSend t s q a .withdraw) ∨
    (∃ sp o q Q a, w.pair q = some Q ∧ Q.lp = t ∧ op = .tokSendFrom t sp o q a .withdraw) ∨
    (∃ s a, op = .tokBurn t s a) ∨
    (∃ sp o a, op = .tokBurnFrom t sp o a) := by
  rcases lp_supply_changes_only h hv.fresh t with e | e | e | e | ⟨q, Q, f, from_, a, _, _, rfl⟩ | e
  · exact .inl e
  · exact .inr (.inl e)
  · exact .inr (.inr (.inl e))
  · exact .inr (.inr (.inr (.inl e)))
  · have hat : (w.tok t).isNone = true := hv.actor.noTok
    rw [Option.isNone_iff_eq_none.1 hat] at hlive
    cases hlive
  · exact .inr (.inr (.inr (.inr e)))

theorem lp_supply_grows_only {name : Asset → String} {w w' : World} {op : Op} {out : Out}
    (h : exec name w op = .ok (w', out)) (hf : FreshOK w op) (t p : Nat)
    (hlive : ∃ T, w.tok t = some T ∧ T.minter = some p) :
    supply w' t ≤ supply w t ∨ ∃ s f as0 am0 as1 am1 tol r, op = .pair s p f (.provide as0 am0 as1 am1 tol r) := by
  by_cases hm : MintOf op p
  · exact .inr hm
  · exact .inl ((Flows.exec_tr hf h).supply_le hm hlive)

end Halo.Reach
