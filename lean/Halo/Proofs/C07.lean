/-
C07 proofs — frame, allowance frame, conservation, supply.

Architecture: an inductive relation `Moves F S Q w w'` ("`w'` is reached from `w` by ledger primitives
whose source / destination / allowance-owner accounts all lie in `S` and whose mints / burns are on
tokens in `Q`, interleaved with *quiet* steps that change no balance, supply or allowance").  The
parameter `F` is the freshness assumption under which the quiet steps are quiet for cw20 state (the
bank is unchanged unconditionally).

  * `exec_moves_lp`: every successful operation is a `Moves (FreshOK w op) (Touched w op) (LpChanger w op)` — its ledger
    primitives by `exec_split` (`Halo/Proofs/Trace.lean`), its configuration step as a quiet step,
  * the C07 properties are consequences of `Moves`: it is made of runs of ledger primitives and quiet steps
    (`Moves.byLed`), so what holds along a run (`Led.frame`, `Led.supply_frame`, `Led.allow_frame`, `Led.cons`) carries over.
Core Lean only.
-/
import Halo.Proofs.Trace

namespace Halo.C07

inductive Moves (F : Prop) (S Q : Nat → Prop) : World → World → Prop
  | refl (w : World) : Moves F S Q w w
  | trans {a b c : World} : Moves F S Q a b → Moves F S Q b c → Moves F S Q a c
  | bank {w w' : World} {src dst d amt : Nat} :
      S src → S dst → bankMove1 w src dst d amt = .ok w' → Moves F S Q w w'
  | xfer {w w' : World} {t src dst amt : Nat} :
      S src → S dst → tokTransfer w t src dst amt = .ok w' → Moves F S Q w w'
  | xferFrom {w w' : World} {t sp owner dst amt : Nat} :
      S owner → S dst → tokTransferFrom w t sp owner dst amt = .ok w' → Moves F S Q w w'
  | mint {w w' : World} {t sd dst amt : Nat} :
      S dst → Q t → tokMint w t sd dst amt = .ok w' → Moves F S Q w w'
  | burn {w w' : World} {t sd amt : Nat} :
      S sd → Q t → tokBurn w t sd amt = .ok w' → Moves F S Q w w'
  | incAllow {w w' : World} {t o sp amt : Nat} :
      S o → tokIncAllow w t o sp amt = .ok w' → Moves F S Q w w'
  | burnFrom {w w' : World} {t sp owner amt : Nat} :
      S owner → Q t → tokBurnFrom w t sp owner amt = .ok w' → Moves F S Q w w'
  | decAllow {w w' : World} {t o sp amt : Nat} :
      S o → tokDecAllow w t o sp amt = .ok w' → Moves F S Q w w'
  | quiet {w w' : World} :
      w'.bank = w.bank →
      (F → (∀ a z, bal w' a z = bal w a z) ∧ (∀ t, supply w' t = supply w t) ∧
        (∀ t o s, allowOf w' t o s = allowOf w t o s)) → Moves F S Q w w'

/-- the parts the accounts of a `Moves` may play: `S` pays, is paid and grants; anybody mints; supplies change in `Q` -/
def movesRoles (S Q : Nat → Prop) : Roles := ⟨S, S, fun _ => True, Q, S⟩

/-- a run of ledger primitives, seen at the level of balances: payers, payees and allowance owners in `S`, minted and
burnt tokens in `Q` -/
theorem _root_.Halo.Led.moves {R : Roles} {F : Prop} {S Q : Nat → Prop} {w w' : World} (h : Led R w w')
    (hp : ∀ z, R.pay z → S z) (hr : ∀ z, R.recv z → S z) (ht : ∀ t, R.tok t → Q t) (hg : ∀ z, R.grant z → S z) :
    Moves F S Q w w' := by
  induction h with
  | refl w => exact .refl w
  | trans _ _ ih1 ih2 => exact .trans ih1 ih2
  | bank hs hd h => exact .bank (hp _ hs) (hr _ hd) h
  | xfer hs hd h => exact .xfer (hp _ hs) (hr _ hd) h
  | xferFrom hs hd h => exact .xferFrom (hp _ hs) (hr _ hd) h
  | mint _ hd hq h => exact .mint (hr _ hd) (ht _ hq) h
  | burn hs hq h => exact .burn (hp _ hs) (ht _ hq) h
  | incAllow ho h => exact .incAllow (hg _ ho) h
  | burnFrom hs hq h => exact .burnFrom (hp _ hs) (ht _ hq) h
  | decAllow ho h => exact .decAllow (hg _ ho) h

namespace Moves

variable {F : Prop} {S Q : Nat → Prop} {w w' : World}

theorem static (hb : w'.bank = w.bank) (ht : w'.tok = w.tok) : Moves F S Q w w' :=
  .quiet hb (fun _ => ⟨bal_of_eq hb ht, supply_of_tok_eq ht, allowOf_of_tok_eq ht⟩)

/-- A `Moves` is made of runs of ledger primitives with the roles `movesRoles S Q` and of quiet steps: what is reflexive and
transitive and holds across both holds across it.  (Motive as in `Led.byEffect`.) -/
theorem byLed {motive : (w w' : World) → Moves F S Q w w' → Prop}
    (refl : ∀ w, motive w w (.refl w))
    (trans : ∀ {a b c : World} {h1 : Moves F S Q a b} {h2 : Moves F S Q b c},
      motive a b h1 → motive b c h2 → motive a c (h1.trans h2))
    (led : ∀ {w w' : World} {h : Moves F S Q w w'}, Led (movesRoles S Q) w w' → motive w w' h)
    (quiet : ∀ {w w' : World} {h : Moves F S Q w w'}, w'.bank = w.bank →
      (F → (∀ a z, bal w' a z = bal w a z) ∧ (∀ t, supply w' t = supply w t) ∧
        (∀ t o s, allowOf w' t o s = allowOf w t o s)) → motive w w' h)
    (h : Moves F S Q w w') : motive w w' h := by
  induction h with
  | refl w => exact refl w
  | trans _ _ ih1 ih2 => exact trans ih1 ih2
  | bank hs hd h => exact led (.bank hs hd h)
  | xfer hs hd h => exact led (.xfer hs hd h)
  | xferFrom hs hd h => exact led (.xferFrom hs hd h)
  | mint hd hq h => exact led (.mint trivial hd hq h)
  | burn hs hq h => exact led (.burn hs hq h)
  | incAllow hs h => exact led (.incAllow hs h)
  | burnFrom hs hq h => exact led (.burnFrom hs hq h)
  | decAllow hs h => exact led (.decAllow hs h)
  | quiet hb hq => exact quiet hb hq

theorem frame (h : Moves F S Q w w') (hF : F) (a : Asset) {z : Nat} (hz : ¬ S z) : bal w' a z = bal w a z := by
  induction h using byLed with
  | refl w => rfl
  | trans ih1 ih2 => exact ih2.trans ih1
  | led h => exact h.frame a hz hz
  | quiet _ hq => exact (hq hF).1 a z

theorem supply_frame (h : Moves F S Q w w') (hF : F) {t : Nat} (ht : ¬ Q t) : supply w' t = supply w t := by
  induction h using byLed with
  | refl w => rfl
  | trans ih1 ih2 => exact ih2.trans ih1
  | led h => exact h.supply_frame ht
  | quiet _ hq => exact (hq hF).2.1 t

theorem allow_frame (h : Moves F S Q w w') (hF : F) {o : Nat} (ho : ¬ S o) (t s : Nat) :
    allowOf w' t o s = allowOf w t o s := by
  induction h using byLed with
  | refl w => rfl
  | trans ih1 ih2 => exact ih2.trans ih1
  | led h => exact h.allow_frame ho ho t s
  | quiet _ hq => exact (hq hF).2.2 t o s

theorem cons (h : Moves F S Q w w') (a : Asset) (hF : ∀ t, a = .token t → F) {L : List Nat} (hn : L.Nodup)
    (hL : ∀ z, S z → z ∈ L) : ConsAt w w' a L := by
  induction h using byLed with
  | refl w => rfl
  | trans ih1 ih2 => exact ih1.trans ih2
  | led h => exact h.cons a hn hL hL
  | quiet hb hq =>
    cases a with
    | native d => exact consAt_same (fun z => by simp only [bal, hb]) rfl
    | token t =>
      have := hq (hF t rfl)
      exact consAt_same (this.1 _) (this.2.1 t)

theorem mono {F' : Prop} {S' Q' : Nat → Prop} (h : Moves F S Q w w') (hF : F' → F)
    (hS : ∀ z, S z → S' z) (hQ : ∀ t, Q t → Q' t) : Moves F' S' Q' w w' := by
  induction h using byLed with
  | refl w => exact .refl w
  | trans ih1 ih2 => exact ih1.trans ih2
  | led h => exact h.moves hS hS hQ hS
  | quiet hb hq => exact .quiet hb fun hF' => hq (hF hF')

end Moves

theorem lp_supply_withdraw {w w' : World} {p : Nat} {P : PairSt} {sender amount x0 x1 : Nat}
    (h : pairWithdraw w p P sender amount = .ok (w', x0, x1)) :
    supply w' P.lp + amount = supply w P.lp := by
  obtain ⟨w1, w2, h1, h2, h3⟩ := (pairWithdraw_ok h).steps
  rw [← supply_payout h1, ← supply_payout h2, (tokBurn_burnt h3).supply, if_pos rfl]
  exact Nat.sub_add_cancel (tokBurn_burnt h3).le_supply

theorem lp_supply_provide {w w' : World} {p : Nat} {P : PairSt} {sender : Nat} {funds : List (Nat × Nat)}
    {as0 as1 : Asset} {am0 am1 : Nat} {tol rcv : Option Nat} {share : Nat}
    (h : pairProvide w p P sender funds as0 am0 as1 am1 tol rcv = .ok (w', share))
    (_h0 : P.a0 ≠ .token P.lp) (_h1 : P.a1 ≠ .token P.lp) :
    supply w' P.lp = supply w P.lp + share + (if supply w P.lp = 0 then 1 else 0) := by
  obtain ⟨d0, d1, w1, w2, w3, h1, h2, h3, h4⟩ := pairProvide_steps h
  rw [(tokMint_minted h4).supply, if_pos rfl]
  rcases h3 with ⟨hz, h3⟩ | ⟨hz, rfl⟩
  · rw [(tokMint_minted h3).supply, if_pos rfl, supply_pull h2, supply_pull h1, if_pos hz]
    omega
  · rw [supply_pull h2, supply_pull h1, if_neg hz]
    omega

theorem cfgStep_moves {F : Prop} {S Q : Nat → Prop} {w w' : World} {op : Op} (h : cfgStep w op = .ok w')
    (hfresh : F → FreshOK w op) : Moves F S Q w w' :=
  .quiet (cfgStep_ledgers h).1 (fun hF => cfgStep_quiet h (hfresh hF))

theorem isLp_of_pair {w : World} {p : Nat} {P : PairSt} (h : w.pair p = some P) : IsLp w P.lp := ⟨p, P, h, rfl⟩

/-- every successful operation moves balances only among the accounts it touches, and changes the supply only of the LP
token of a pair it provides to or withdraws from, or of the token it burns -/
theorem exec_moves_lp {name : Asset → String} {w w' : World} {op : Op} {out : Out}
    (h : exec name w op = .ok (w', out)) : Moves (FreshOK w op) (Touched w op) (LpChanger w op) w w' := by
  obtain ⟨w0, hl, hc⟩ := exec_split h
  exact (hl.moves (fun _ hz => Payer.touched hz) (fun _ hz => hz) (fun _ ht => ht)
    (fun _ hz => hz ▸ Touched.actor)).trans (cfgStep_moves hc fun hF => hF.led hl)

theorem _root_.Halo.LpChanger.isLp_or_burn {w : World} {op : Op} {t : Nat} (h : LpChanger w op t) :
    IsLp w t ∨ (∃ s amt, op = .tokBurn t s amt) ∨ ∃ sp o amt, op = .tokBurnFrom t sp o amt := by
  rcases h with ⟨_, q, Q, _, _, _, _, _, _, _, hQ, rfl, _⟩ | ⟨_, q, Q, _, hQ, rfl, _⟩ | ⟨_, _, q, Q, _, hQ, rfl, _⟩ |
    ⟨q, Q, _, _, _, hQ, rfl, _⟩ | hb | hb
  · exact .inl (isLp_of_pair hQ)
  · exact .inl (isLp_of_pair hQ)
  · exact .inl (isLp_of_pair hQ)
  · exact .inl (isLp_of_pair hQ)
  · exact .inr (.inl hb)
  · exact .inr (.inr hb)

theorem step_frame {name : Asset → String} {w w' : World} {op : Op} {out : Out}
    (h : exec name w op = .ok (w', out)) (hf : FreshOK w op) (a : Asset) (z : Nat) (hz : ¬ Touched w op z) :
    bal w' a z = bal w a z :=
  (exec_moves_lp h).frame hf a hz

theorem allowance_frame {name : Asset → String} {w w' : World} {op : Op} {out : Out}
    (h : exec name w op = .ok (w', out)) (hf : FreshOK w op) (t o s : Nat) (T T' : Token)
    (hT : w.tok t = some T) (hT' : w'.tok t = some T') (ho : ¬ Touched w op o) : T'.allow o s = T.allow o s := by
  have := (exec_moves_lp h).allow_frame hf ho t s
  rwa [allowOf_of_tok hT, allowOf_of_tok hT'] at this

theorem conserve_native {name : Asset → String} {w w' : World} {op : Op} {out : Out}
    (h : exec name w op = .ok (w', out)) (d : Nat) (L : List Nat) (hn : L.Nodup) (hL : ∀ z, Touched w op z → z ∈ L) :
    sumBal w' (.native d) L = sumBal w (.native d) L :=
  (exec_moves_lp h).cons (.native d) (fun _ e => by cases e) hn hL

theorem conserve_token {name : Asset → String} {w w' : World} {op : Op} {out : Out}
    (h : exec name w op = .ok (w', out)) (hf : FreshOK w op) (t : Nat) (L : List Nat) (hn : L.Nodup)
    (hL : ∀ z, Touched w op z → z ∈ L) :
    sumBal w' (.token t) L + supply w t = sumBal w (.token t) L + supply w' t :=
  (exec_moves_lp h).cons (.token t) (fun _ _ => hf) hn hL

theorem supply_non_lp {name : Asset → String} {w w' : World} {op : Op} {out : Out}
    (h : exec name w op = .ok (w', out)) (hf : FreshOK w op) (t : Nat) (hlp : ¬ IsLp w t) :
    supply w' t = supply w t ∨ (∃ s amt, op = .tokBurn t s amt) ∨ ∃ sp o amt, op = .tokBurnFrom t sp o amt := by
  by_cases hb : (∃ s amt, op = .tokBurn t s amt) ∨ ∃ sp o amt, op = .tokBurnFrom t sp o amt
  · exact .inr hb
  · exact .inl ((exec_moves_lp h).supply_frame hf (fun hq => hq.isLp_or_burn.elim hlp hb))

end Halo.C07
