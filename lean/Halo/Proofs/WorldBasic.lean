/-
Foundation for the world-level proofs: for every ledger primitive of `Halo/World.lean`
  * an inversion lemma (`…_ok`): what success means and the exact resulting world,
  * what it does to the world besides the ledgers: a bank operation rewrites the bank only (`…_bank_only`), a cw20
    primitive the state of one contract that exists, keeping its minter (`ledgerOnly_setTok`); hence `LedgerOnly` (`Same`,
    `SameToks`, `Flows.TokKeep`), the field `kept` of every effect,
  * what it does to the ledgers (balances, supplies, allowances), as one of four effects: `Paid` (a move: bank,
    `Transfer`, `TransferFrom`, `payout`), `Minted`, `Burnt`, `Unmoved` (the allowance changes),
and `Emptied`: what instantiating a cw20 contract does to them.
Core Lean only.
-/
import Halo.Proofs.Basic
import Halo.Proofs.Allowance
import Halo.World

namespace Halo
open C07 (allowOf)

/-- the contract-state part of the world is unchanged (only ledgers may differ) -/
structure Same (w w' : World) : Prop where
  pair : w'.pair = w.pair
  registry : w'.registry = w.registry
  owner : w'.owner = w.owner
  facAddr : w'.facAddr = w.facAddr
  router : w'.router = w.router
  denoms : w'.denoms = w.denoms
  rawId : w'.rawId = w.rawId
  badAddr : w'.badAddr = w.badAddr

theorem Same.refl (w : World) : Same w w := ⟨rfl, rfl, rfl, rfl, rfl, rfl, rfl, rfl⟩
theorem Same.trans {a b c : World} (h1 : Same a b) (h2 : Same b c) : Same a c :=
  ⟨h2.pair.trans h1.pair, h2.registry.trans h1.registry, h2.owner.trans h1.owner, h2.facAddr.trans h1.facAddr,
   h2.router.trans h1.router, h2.denoms.trans h1.denoms, h2.rawId.trans h1.rawId, h2.badAddr.trans h1.badAddr⟩

/-- `facLookup` reads only the registry and the raw identifiers -/
theorem facLookup_same {w w' : World} (h : Same w w') (o a : Asset) : facLookup w' o a = facLookup w o a := by
  unfold facLookup
  rw [h.registry, h.rawId]

/-- total supply of a cw20 token, 0 if unknown -/
def supply (w : World) (t : Nat) : Nat := match w.tok t with | some T => T.supply | none => 0

/-- which cw20 contracts exist is part of what ledger operations preserve -/
def SameToks (w w' : World) : Prop := ∀ t, (w'.tok t).isSome = (w.tok t).isSome

theorem SameToks.refl (w : World) : SameToks w w := fun _ => rfl
theorem SameToks.trans {a b c : World} (h1 : SameToks a b) (h2 : SameToks b c) : SameToks a c :=
  fun t => (h2 t).trans (h1 t)
theorem SameToks.none {w w' : World} (h : SameToks w w') {t : Nat} (ht : w.tok t = none) : w'.tok t = none := by
  have := h t
  rw [ht] at this
  exact Option.isSome_eq_false_iff.mp this |> Option.isNone_iff_eq_none.mp

theorem validAddr_ok_iff {w : World} {a : Nat} {u : Unit} : validAddr w a = .ok u ↔ w.badAddr a = false := by
  unfold validAddr
  cases w.badAddr a <;> simp

theorem validTo_ok_iff {w : World} {dst : Option Nat} {u : Unit} : validTo w dst = .ok u ↔ badTo w dst = false := by
  unfold validTo
  cases badTo w dst <;> simp

theorem badTo_some (w : World) (a : Nat) : badTo w (some a) = w.badAddr a := rfl
theorem badTo_none (w : World) : badTo w none = false := rfl

theorem badTo_false_iff {w : World} {dst : Option Nat} :
    badTo w dst = false ↔ ∀ a ∈ dst.toList, w.badAddr a = false := by
  cases dst with
  | none => exact ⟨fun _ _ h => (List.not_mem_nil h).elim, fun _ => rfl⟩
  | some a => exact ⟨fun h x hx => List.mem_singleton.mp hx ▸ h, fun h => h a (List.mem_singleton.mpr rfl)⟩

theorem validTo_none (w : World) : validTo w none = .ok () := rfl

theorem validTo_bad {w : World} {a : Nat} (h : w.badAddr a = true) : validTo w (some a) = .error .err := by
  simp [validTo, badTo, h]

theorem validAddr_bad {w : World} {a : Nat} (h : w.badAddr a = true) : validAddr w a = .error .err := by
  simp [validAddr, h]

theorem validTo_congr {w w' : World} (h : w'.badAddr = w.badAddr) (dst : Option Nat) : validTo w' dst = validTo w dst := by
  have hb : badTo w' dst = badTo w dst := by cases dst <;> simp [badTo, h]
  unfold validTo
  rw [hb]

theorem bankMove1_ok {w w' : World} {src dst d amt : Nat} (h : bankMove1 w src dst d amt = .ok w') :
    amt ≤ w.bank src d ∧
    w' = { w with bank := fun a x =>
      if a = dst ∧ x = d then (if a = src ∧ x = d then w.bank a x - amt else w.bank a x) + amt
      else if a = src ∧ x = d then w.bank a x - amt else w.bank a x } := by
  unfold bankMove1 at h
  split at h
  · cases h
  · injection h with h
    exact ⟨by omega, h.symm⟩

theorem bankMove1_same {w w' : World} {src dst d amt : Nat} (h : bankMove1 w src dst d amt = .ok w') : Same w w' := by
  obtain ⟨_, rfl⟩ := bankMove1_ok h
  exact ⟨rfl, rfl, rfl, rfl, rfl, rfl, rfl, rfl⟩

theorem bankMove1_tok {w w' : World} {src dst d amt : Nat} (h : bankMove1 w src dst d amt = .ok w') : w'.tok = w.tok := by
  obtain ⟨_, rfl⟩ := bankMove1_ok h
  rfl

theorem bankMove1_bank {w w' : World} {src dst d amt : Nat} (h : bankMove1 w src dst d amt = .ok w') (a x : Nat) :
    w'.bank a x =
      if x = d then
        (if a = dst then (if a = src then w.bank a x - amt else w.bank a x) + amt
         else if a = src then w.bank a x - amt else w.bank a x)
      else w.bank a x := by
  obtain ⟨_, rfl⟩ := bankMove1_ok h
  by_cases hx : x = d <;> by_cases ha : a = dst <;> by_cases hs : a = src <;> simp [hx, ha, hs]

/-- a bank operation rewrites the bank and nothing else (so not the factory's code ids either, which `Same` does not
list) -/
theorem bankMoveList_bank_only {src dst : Nat} : ∀ {cs : List (Nat × Nat)} {w w' : World},
    bankMoveList w src dst cs = .ok w' → ∃ b, w' = { w with bank := b }
  | [], w, w', h => by
    cases h; exact ⟨w.bank, rfl⟩
  | (d, amt) :: cs, w, w', h => by
    simp only [bankMoveList, bind_ok_iff] at h
    obtain ⟨w1, h1, h2⟩ := h
    obtain ⟨_, rfl⟩ := bankMove1_ok h1
    obtain ⟨b, rfl⟩ := bankMoveList_bank_only h2
    exact ⟨b, rfl⟩

/-- a successful bank send, and a successful crediting of attached funds, is the list of moves of its non-zero coins -/
theorem bankSend_ok {w w' : World} {src dst : Nat} {cs : List (Nat × Nat)} (h : bankSend w src dst cs = .ok w') :
    bankMoveList w src dst (cs.filter (fun c => c.2 ≠ 0)) = .ok w' := by
  unfold bankSend at h
  exact (guard_ok h).2

theorem attach_ok {w w' : World} {src dst : Nat} {cs : List (Nat × Nat)} (h : attach w src dst cs = .ok w') :
    bankMoveList w src dst (cs.filter (fun c => c.2 ≠ 0)) = .ok w' := by
  unfold attach at h
  split at h
  · rename_i he
    subst he
    exact h
  · exact bankSend_ok h

theorem bankSend_bank_only {w w' : World} {src dst : Nat} {cs : List (Nat × Nat)}
    (h : bankSend w src dst cs = .ok w') : ∃ b, w' = { w with bank := b } :=
  bankMoveList_bank_only (bankSend_ok h)

theorem attach_bank_only {w w' : World} {src dst : Nat} {cs : List (Nat × Nat)}
    (h : attach w src dst cs = .ok w') : ∃ b, w' = { w with bank := b } :=
  bankMoveList_bank_only (attach_ok h)

theorem bankSend_same {w w' : World} {src dst : Nat} {cs : List (Nat × Nat)}
    (h : bankSend w src dst cs = .ok w') : Same w w' := by
  obtain ⟨b, rfl⟩ := bankSend_bank_only h
  exact ⟨rfl, rfl, rfl, rfl, rfl, rfl, rfl, rfl⟩

theorem attach_same {w w' : World} {src dst : Nat} {cs : List (Nat × Nat)}
    (h : attach w src dst cs = .ok w') : Same w w' := by
  obtain ⟨b, rfl⟩ := attach_bank_only h
  exact ⟨rfl, rfl, rfl, rfl, rfl, rfl, rfl, rfl⟩

theorem attach_tok {w w' : World} {src dst : Nat} {cs : List (Nat × Nat)}
    (h : attach w src dst cs = .ok w') : w'.tok = w.tok := by
  obtain ⟨b, rfl⟩ := attach_bank_only h
  rfl

/-- a single-coin bank send: the form every payout and every router hop uses -/
theorem bankSend_single {w w' : World} {src dst d amt : Nat} (h : bankSend w src dst [(d, amt)] = .ok w') :
    amt ≠ 0 ∧ bankMove1 w src dst d amt = .ok w' := by
  unfold bankSend at h
  by_cases h0 : amt = 0
  · simp [h0] at h
  · simp only [List.filter, h0, ne_eq, not_false_eq_true, decide_true] at h
    simp only [reduceCtorEq, ↓reduceIte, bankMoveList, bind_ok_iff] at h
    obtain ⟨w1, h1, h2⟩ := h
    injection h2 with h2; subst h2
    exact ⟨h0, h1⟩

theorem attach_single (w : World) (s p d amt : Nat) : attach w s p [(d, amt)] = payout w s (.native d) p amt :=
  if_neg (List.cons_ne_nil _ _)

theorem setTok_same (w : World) (t : Nat) (T : Token) : Same w (setTok w t T) :=
  ⟨rfl, rfl, rfl, rfl, rfl, rfl, rfl, rfl⟩

theorem setTok_tok (w : World) (t : Nat) (T : Token) (a : Nat) :
    (setTok w t T).tok a = if a = t then some T else w.tok a := rfl

theorem tokTransfer_ok {w w' : World} {t src dst amt : Nat} (h : tokTransfer w t src dst amt = .ok w') :
    ∃ T, w.tok t = some T ∧ amt ≠ 0 ∧ amt ≤ T.bal src ∧
      w' = setTok w t { T with bal := fun a =>
        if a = dst then (if a = src then T.bal a - amt else T.bal a) + amt
        else if a = src then T.bal a - amt else T.bal a } := by
  unfold tokTransfer at h
  cases hT : w.tok t with
  | none => rw [hT] at h; cases h
  | some T =>
    rw [hT] at h
    obtain ⟨h0, h⟩ := ite_error_iff.mp h
    obtain ⟨h1, h⟩ := ite_error_iff.mp h
    cases h
    exact ⟨T, rfl, h0, Nat.le_of_not_lt h1, rfl⟩

theorem tokTransferFrom_ok {w w' : World} {t spender owner dst amt : Nat}
    (h : tokTransferFrom w t spender owner dst amt = .ok w') :
    ∃ T al, w.tok t = some T ∧ T.allow owner spender = some al ∧ amt ≤ al ∧ amt ≤ T.bal owner ∧
      w' = setTok w t { T with
        bal := fun a =>
          if a = dst then (if a = owner then T.bal a - amt else T.bal a) + amt
          else if a = owner then T.bal a - amt else T.bal a
        allow := fun o s => if o = owner ∧ s = spender then some (al - amt) else T.allow o s } := by
  unfold tokTransferFrom at h
  cases hT : w.tok t with
  | none => rw [hT] at h; cases h
  | some T =>
    rw [hT] at h
    dsimp only at h
    cases hal : T.allow owner spender with
    | none => rw [hal] at h; cases h
    | some al =>
      rw [hal] at h
      obtain ⟨h1, h⟩ := ite_error_iff.mp h
      obtain ⟨h2, h⟩ := ite_error_iff.mp h
      cases h
      exact ⟨T, al, rfl, hal, Nat.le_of_not_lt h1, Nat.le_of_not_lt h2, rfl⟩

theorem tokMint_ok {w w' : World} {t sender dst amt : Nat} (h : tokMint w t sender dst amt = .ok w') :
    ∃ T, w.tok t = some T ∧ amt ≠ 0 ∧ T.minter = some sender ∧ T.supply + amt < W ∧
      w' = setTok w t { T with supply := T.supply + amt, bal := fun a => if a = dst then T.bal a + amt else T.bal a } := by
  unfold tokMint at h
  cases hT : w.tok t with
  | none => rw [hT] at h; cases h
  | some T =>
    rw [hT] at h
    obtain ⟨h0, h⟩ := ite_error_iff.mp h
    obtain ⟨h1, h⟩ := ite_error_iff.mp h
    obtain ⟨h2, h⟩ := ite_error_iff.mp h
    cases h
    exact ⟨T, rfl, h0, Decidable.not_not.mp h1, Nat.lt_of_not_le h2, rfl⟩

theorem tokBurn_ok {w w' : World} {t sender amt : Nat} (h : tokBurn w t sender amt = .ok w') :
    ∃ T, w.tok t = some T ∧ amt ≠ 0 ∧ amt ≤ T.bal sender ∧ amt ≤ T.supply ∧
      w' = setTok w t { T with supply := T.supply - amt, bal := fun a => if a = sender then T.bal a - amt else T.bal a } := by
  unfold tokBurn at h
  cases hT : w.tok t with
  | none => rw [hT] at h; cases h
  | some T =>
    rw [hT] at h
    obtain ⟨h0, h⟩ := ite_error_iff.mp h
    obtain ⟨h1, h⟩ := ite_error_iff.mp h
    obtain ⟨h2, h⟩ := ite_error_iff.mp h
    cases h
    exact ⟨T, rfl, h0, Nat.le_of_not_lt h1, Nat.le_of_not_lt h2, rfl⟩

theorem tokIncAllow_ok {w w' : World} {t owner spender amt : Nat} (h : tokIncAllow w t owner spender amt = .ok w') :
    ∃ T, w.tok t = some T ∧ spender ≠ owner ∧
      w' = setTok w t { T with allow := fun o s =>
        if o = owner ∧ s = spender then some ((T.allow owner spender).getD 0 + amt) else T.allow o s } := by
  unfold tokIncAllow at h
  cases hT : w.tok t with
  | none => rw [hT] at h; cases h
  | some T =>
    rw [hT] at h
    obtain ⟨h0, h⟩ := ite_error_iff.mp h
    obtain ⟨_, h⟩ := ite_error_iff.mp h
    cases h
    exact ⟨T, rfl, h0, rfl⟩

theorem tokBurnFrom_ok {w w' : World} {t spender owner amt : Nat}
    (h : tokBurnFrom w t spender owner amt = .ok w') :
    ∃ T al, w.tok t = some T ∧ T.allow owner spender = some al ∧ amt ≤ al ∧ amt ≤ T.bal owner ∧ amt ≤ T.supply ∧
      w' = setTok w t { T with
        supply := T.supply - amt
        bal := fun a => if a = owner then T.bal a - amt else T.bal a
        allow := fun o s => if o = owner ∧ s = spender then some (al - amt) else T.allow o s } := by
  unfold tokBurnFrom at h
  cases hT : w.tok t with
  | none => rw [hT] at h; cases h
  | some T =>
    rw [hT] at h
    dsimp only at h
    cases hal : T.allow owner spender with
    | none => rw [hal] at h; cases h
    | some al =>
      rw [hal] at h
      obtain ⟨h1, h⟩ := ite_error_iff.mp h
      obtain ⟨h2, h⟩ := ite_error_iff.mp h
      obtain ⟨h3, h⟩ := ite_error_iff.mp h
      cases h
      exact ⟨T, al, rfl, hal, Nat.le_of_not_lt h1, Nat.le_of_not_lt h2, Nat.le_of_not_lt h3, rfl⟩

theorem tokDecAllow_ok {w w' : World} {t owner spender amt : Nat} (h : tokDecAllow w t owner spender amt = .ok w') :
    ∃ T al, w.tok t = some T ∧ spender ≠ owner ∧ T.allow owner spender = some al ∧
      w' = setTok w t { T with allow := fun o s =>
        if o = owner ∧ s = spender then (if amt < al then some (al - amt) else none) else T.allow o s } := by
  unfold tokDecAllow at h
  cases hT : w.tok t with
  | none => rw [hT] at h; cases h
  | some T =>
    rw [hT] at h
    obtain ⟨h0, h⟩ := ite_error_iff.mp h
    cases hal : T.allow owner spender with
    | none => rw [hal] at h; cases h
    | some al =>
      rw [hal] at h
      cases h
      exact ⟨T, al, rfl, h0, hal, rfl⟩

/-! ### all a cw20 primitive does to the world -/

theorem sameToks_setTok {w : World} {t : Nat} {T T' : Token} (h : w.tok t = some T) : SameToks w (setTok w t T') := by
  intro a
  by_cases ha : a = t
  · subst ha; simp [setTok, h]
  · simp [setTok, ha]

theorem sameToks_of_tok_eq {w w' : World} (h : w'.tok = w.tok) : SameToks w w' := fun t => by rw [h]

theorem bal_of_eq {w w' : World} (hb : w'.bank = w.bank) (ht : w'.tok = w.tok) (a : Asset) (z : Nat) :
    bal w' a z = bal w a z := by
  cases a <;> simp [bal, hb, ht]

theorem supply_of_tok_eq {w w' : World} (h : w'.tok = w.tok) (t : Nat) : supply w' t = supply w t := by
  simp [supply, h]

/-- every cw20 contract persists, with its minter (the first field of `Flows.Stat`, whence the name) -/
def Flows.TokKeep (w w' : World) : Prop :=
  ∀ t T, w.tok t = some T → ∃ T', w'.tok t = some T' ∧ T'.minter = T.minter

theorem Flows.TokKeep.refl (w : World) : Flows.TokKeep w w := fun _ T h => ⟨T, h, rfl⟩
theorem Flows.TokKeep.trans {a b c : World} (h1 : Flows.TokKeep a b) (h2 : Flows.TokKeep b c) : Flows.TokKeep a c := by
  intro t T hT
  obtain ⟨T1, hT1, m1⟩ := h1 t T hT
  obtain ⟨T2, hT2, m2⟩ := h2 t T1 hT1
  exact ⟨T2, hT2, m2.trans m1⟩

theorem Flows.tokKeep_of_eq {w w' : World} (h : w'.tok = w.tok) : Flows.TokKeep w w' :=
  fun t T hT => ⟨T, by rw [h]; exact hT, rfl⟩

theorem Flows.tokKeep_setTok {w : World} {t : Nat} {T T' : Token} (hT : w.tok t = some T) (hm : T'.minter = T.minter) :
    Flows.TokKeep w (setTok w t T') := by
  intro u U hU
  by_cases hu : u = t
  · subst hu
    rw [hT] at hU
    injection hU with hU
    subst hU
    exact ⟨T', by simp [setTok], hm⟩
  · exact ⟨U, by simp [setTok, hu, hU], rfl⟩

/-- all that a ledger primitive leaves alone: the contract states, which cw20 contracts exist, and their minters -/
structure LedgerOnly (w w' : World) : Prop extends Same w w' where
  toks : SameToks w w'
  minters : Flows.TokKeep w w'

theorem LedgerOnly.refl (w : World) : LedgerOnly w w := ⟨.refl w, .refl w, .refl w⟩
theorem LedgerOnly.trans {a b c : World} (h1 : LedgerOnly a b) (h2 : LedgerOnly b c) : LedgerOnly a c :=
  ⟨h1.toSame.trans h2.toSame, h1.toks.trans h2.toks, h1.minters.trans h2.minters⟩

/-- rewriting the state of one cw20 contract that exists, its minter kept, changes the ledgers only -/
theorem ledgerOnly_setTok {w : World} {t : Nat} {T T' : Token} (hT : w.tok t = some T) (hm : T'.minter = T.minter) :
    LedgerOnly w (setTok w t T') :=
  ⟨setTok_same _ _ _, sameToks_setTok hT, Flows.tokKeep_setTok hT hm⟩

theorem bankMove1_ledgerOnly {w w' : World} {src dst d amt : Nat} (h : bankMove1 w src dst d amt = .ok w') :
    LedgerOnly w w' :=
  ⟨bankMove1_same h, sameToks_of_tok_eq (bankMove1_tok h), Flows.tokKeep_of_eq (bankMove1_tok h)⟩

theorem bal_native (w : World) (d z : Nat) : bal w (.native d) z = w.bank z d := rfl

theorem bal_setTok (w : World) (t : Nat) (T : Token) (a : Asset) (z : Nat) :
    bal (setTok w t T) a z = if a = .token t then T.bal z else bal w a z := by
  cases a with
  | native d => simp [bal, setTok]
  | token u =>
    by_cases hu : u = t
    · simp [bal, setTok, hu]
    · simp [bal, setTok, hu]

theorem supply_setTok (w : World) (t : Nat) (T : Token) (u : Nat) :
    supply (setTok w t T) u = if u = t then T.supply else supply w u := by
  by_cases hu : u = t
  · simp [supply, setTok, hu]
  · simp [supply, setTok, hu]

theorem bal_of_tok {w : World} {t : Nat} {T : Token} (h : w.tok t = some T) (z : Nat) : bal w (.token t) z = T.bal z := by
  simp [bal, h]

theorem supply_of_tok {w : World} {t : Nat} {T : Token} (h : w.tok t = some T) : supply w t = T.supply := by
  simp [supply, h]

theorem bal_token (w : World) (t z : Nat) :
    bal w (.token t) z = match w.tok t with | none => 0 | some T => T.bal z := rfl

theorem balOf_ok {w : World} {a : Asset} {z v : Nat} (h : balOf w a z = .ok v) : v = bal w a z := by
  cases a with
  | native d => simp only [balOf] at h; injection h with h; exact h.symm
  | token t =>
    simp only [balOf] at h
    cases hT : w.tok t with
    | none => simp [hT] at h
    | some T => simp only [hT] at h; injection h with h; simp [bal, hT, h]

theorem balOf_token_ok {w : World} {t z v : Nat} (h : balOf w (.token t) z = .ok v) : (w.tok t).isSome := by
  simp only [balOf] at h
  cases hT : w.tok t with
  | none => simp [hT] at h
  | some T => simp

theorem balOf_token (w : World) (t z : Nat) :
    balOf w (.token t) z = if (w.tok t).isSome then .ok (bal w (.token t) z) else .error .err := by
  unfold balOf bal
  dsimp only
  cases w.tok t <;> rfl

theorem supplyOf_ok {w : World} {t v : Nat} (h : supplyOf w t = .ok v) : v = supply w t ∧ (w.tok t).isSome := by
  simp only [supplyOf] at h
  cases hT : w.tok t with
  | none => simp [hT] at h
  | some T => simp only [hT] at h; injection h with h; simp [supply, hT, h]

/-! ### the primitives by effect

What a primitive does to the ledgers — balances, supplies, allowance entries — is one of four things: a move (bank send,
cw20 `Transfer`, `TransferFrom`, hence every `payout`), a mint, a burn (`Burn`, `BurnFrom`), a change of the owner's own
allowance entries.  An allowance entry of anybody else changes only when its owner is debited (`TransferFrom`, `BurnFrom`
spend it), and is never created then. -/

/-- `amt` of asset `a` went from `src` to `dst`; no other balance and no supply changed, and of the allowance entries only
`src`'s own, none appearing -/
structure Paid (w w' : World) (a : Asset) (src dst amt : Nat) : Prop where
  le : amt ≤ bal w a src
  bal : ∀ b z, bal w' b z =
    if b = a then
      (if z = dst then (if z = src then bal w b z - amt else bal w b z) + amt
       else if z = src then bal w b z - amt else bal w b z)
    else bal w b z
  supply : ∀ t, supply w' t = supply w t
  allow : ∀ t o s, o ≠ src → allowOf w' t o s = allowOf w t o s
  noNew : ∀ t o s, allowOf w t o s = none → allowOf w' t o s = none
  kept : LedgerOnly w w'

/-- `amt` of the cw20 token `t` was minted to `dst`, at the request of the token's minter `sd` -/
structure Minted (w w' : World) (t sd dst amt : Nat) : Prop where
  lt : supply w t + amt < W
  minter : ∃ T, w.tok t = some T ∧ T.minter = some sd
  bal : ∀ b z, bal w' b z = if b = .token t ∧ z = dst then bal w b z + amt else bal w b z
  supply : ∀ u, supply w' u = if u = t then supply w u + amt else supply w u
  allow : ∀ u o s, allowOf w' u o s = allowOf w u o s
  kept : LedgerOnly w w'

/-- `amt` of the cw20 token `t` held by `s` was burnt; of the allowance entries only `s`'s own changed, none appearing -/
structure Burnt (w w' : World) (t s amt : Nat) : Prop where
  le : amt ≤ bal w (.token t) s
  le_supply : amt ≤ supply w t
  bal : ∀ b z, bal w' b z = if b = .token t ∧ z = s then bal w b z - amt else bal w b z
  supply : ∀ u, supply w' u = if u = t then supply w u - amt else supply w u
  allow : ∀ u o z, o ≠ s → allowOf w' u o z = allowOf w u o z
  noNew : ∀ u o z, allowOf w u o z = none → allowOf w' u o z = none
  kept : LedgerOnly w w'

/-- no balance and no supply changed; of the allowance entries only `o`'s own -/
structure Unmoved (w w' : World) (o : Nat) : Prop where
  bal : ∀ b z, bal w' b z = bal w b z
  supply : ∀ t, supply w' t = supply w t
  allow : ∀ t o' s, o' ≠ o → allowOf w' t o' s = allowOf w t o' s
  kept : LedgerOnly w w'

theorem supply_upd {w : World} {t : Nat} {T : Token} (hT : w.tok t = some T) (T' : Token) (f : Nat → Nat)
    (hf : T'.supply = f T.supply) (u : Nat) : supply (setTok w t T') u = if u = t then f (supply w u) else supply w u := by
  rw [supply_setTok]
  by_cases hu : u = t
  · rw [if_pos hu, if_pos hu, hu, supply_of_tok hT, hf]
  · rw [if_neg hu, if_neg hu]

theorem supply_upd_same {w : World} {t : Nat} {T : Token} (hT : w.tok t = some T) (T' : Token)
    (hf : T'.supply = T.supply) (u : Nat) : supply (setTok w t T') u = supply w u :=
  (supply_upd hT T' id hf u).trans (ite_self _)

theorem bal_upd_move {w : World} {t : Nat} {T : Token} (hT : w.tok t = some T) (T' : Token) {src dst amt : Nat}
    (hf : T'.bal = fun a => if a = dst then (if a = src then T.bal a - amt else T.bal a) + amt
      else if a = src then T.bal a - amt else T.bal a) (b : Asset) (z : Nat) :
    bal (setTok w t T') b z =
      if b = .token t then
        (if z = dst then (if z = src then bal w b z - amt else bal w b z) + amt
         else if z = src then bal w b z - amt else bal w b z)
      else bal w b z := by
  rw [bal_setTok]
  by_cases hb : b = .token t
  · rw [if_pos hb, if_pos hb, hb, hf]; simp only [bal_of_tok hT]
  · rw [if_neg hb, if_neg hb]

theorem bal_upd_at {w : World} {t : Nat} {T : Token} (hT : w.tok t = some T) (T' : Token) {x : Nat} (f : Nat → Nat)
    (hf : T'.bal = fun a => if a = x then f (T.bal a) else T.bal a) (b : Asset) (z : Nat) :
    bal (setTok w t T') b z = if b = .token t ∧ z = x then f (bal w b z) else bal w b z := by
  rw [bal_setTok]
  by_cases hb : b = .token t
  · rw [if_pos hb, hb, hf]; simp only [bal_of_tok hT, true_and]
  · rw [if_neg hb, if_neg (fun e => hb e.1)]

theorem bal_upd_same {w : World} {t : Nat} {T : Token} (hT : w.tok t = some T) (T' : Token) (hf : T'.bal = T.bal)
    (b : Asset) (z : Nat) : bal (setTok w t T') b z = bal w b z := by
  rw [bal_setTok]
  split
  · rw [‹b = _›, hf, bal_of_tok hT]
  · rfl

theorem bankMove1_paid {w w' : World} {src dst d amt : Nat} (h : bankMove1 w src dst d amt = .ok w') :
    Paid w w' (.native d) src dst amt := by
  have ht := bankMove1_tok h
  refine ⟨(bankMove1_ok h).1, fun b z => ?_, fun t => by simp only [supply, ht],
    fun t o s _ => allowOf_of_tok_eq ht t o s, noNew_of_eq (allowOf_of_tok_eq ht), bankMove1_ledgerOnly h⟩
  cases b with
  | native d' => simp only [bal_native, bankMove1_bank h, Asset.native.injEq]
  | token t => simp only [bal, ht, reduceCtorEq, if_false]

theorem tokTransfer_paid {w w' : World} {t src dst amt : Nat} (h : tokTransfer w t src dst amt = .ok w') :
    Paid w w' (.token t) src dst amt := by
  obtain ⟨T, hT, _, hle, rfl⟩ := tokTransfer_ok h
  exact ⟨by rwa [bal_of_tok hT], bal_upd_move hT _ rfl, supply_upd_same hT _ rfl,
    fun u o s _ => allowOf_upd_same hT _ u o s rfl, noNew_of_eq fun u o s => allowOf_upd_same hT _ u o s rfl,
    ledgerOnly_setTok hT rfl⟩

theorem tokTransferFrom_paid {w w' : World} {t sp owner dst amt : Nat}
    (h : tokTransferFrom w t sp owner dst amt = .ok w') : Paid w w' (.token t) owner dst amt := by
  obtain ⟨T, al, hT, hal, _, hle, rfl⟩ := tokTransferFrom_ok h
  exact ⟨by rwa [bal_of_tok hT], bal_upd_move hT _ rfl, supply_upd_same hT _ rfl,
    fun u _ s ho => allowOf_upd_ne hT _ u s ho rfl, fun u o s e => allowOf_upd_noNew hT _ hal u o s e rfl,
    ledgerOnly_setTok hT rfl⟩

theorem tokMint_minted {w w' : World} {t sd dst amt : Nat} (h : tokMint w t sd dst amt = .ok w') :
    Minted w w' t sd dst amt := by
  obtain ⟨T, hT, _, hm, hlt, rfl⟩ := tokMint_ok h
  exact ⟨by rwa [supply_of_tok hT], ⟨T, hT, hm⟩, bal_upd_at hT _ (· + amt) rfl, supply_upd hT _ (· + amt) rfl,
    fun u o s => allowOf_upd_same hT _ u o s rfl, ledgerOnly_setTok hT rfl⟩

theorem tokBurn_burnt {w w' : World} {t sd amt : Nat} (h : tokBurn w t sd amt = .ok w') : Burnt w w' t sd amt := by
  obtain ⟨T, hT, _, hle, hls, rfl⟩ := tokBurn_ok h
  exact ⟨by rwa [bal_of_tok hT], by rwa [supply_of_tok hT], bal_upd_at hT _ (· - amt) rfl, supply_upd hT _ (· - amt) rfl,
    fun u o s _ => allowOf_upd_same hT _ u o s rfl, noNew_of_eq fun u o s => allowOf_upd_same hT _ u o s rfl,
    ledgerOnly_setTok hT rfl⟩

theorem tokBurnFrom_burnt {w w' : World} {t sp owner amt : Nat} (h : tokBurnFrom w t sp owner amt = .ok w') :
    Burnt w w' t owner amt := by
  obtain ⟨T, al, hT, hal, _, hle, hls, rfl⟩ := tokBurnFrom_ok h
  exact ⟨by rwa [bal_of_tok hT], by rwa [supply_of_tok hT], bal_upd_at hT _ (· - amt) rfl, supply_upd hT _ (· - amt) rfl,
    fun u _ s ho => allowOf_upd_ne hT _ u s ho rfl, fun u o s e => allowOf_upd_noNew hT _ hal u o s e rfl,
    ledgerOnly_setTok hT rfl⟩

theorem tokIncAllow_unmoved {w w' : World} {t o s amt : Nat} (h : tokIncAllow w t o s amt = .ok w') :
    Unmoved w w' o := by
  obtain ⟨T, hT, _, rfl⟩ := tokIncAllow_ok h
  exact ⟨bal_upd_same hT _ rfl, supply_upd_same hT _ rfl, fun u _ s ho => allowOf_upd_ne hT _ u s ho rfl,
    ledgerOnly_setTok hT rfl⟩

theorem tokDecAllow_unmoved {w w' : World} {t o s amt : Nat} (h : tokDecAllow w t o s amt = .ok w') :
    Unmoved w w' o := by
  obtain ⟨T, al, hT, _, _, rfl⟩ := tokDecAllow_ok h
  exact ⟨bal_upd_same hT _ rfl, supply_upd_same hT _ rfl, fun u _ s ho => allowOf_upd_ne hT _ u s ho rfl,
    ledgerOnly_setTok hT rfl⟩

theorem payout_paid {w w' : World} {src : Nat} {a : Asset} {dst amt : Nat} (h : payout w src a dst amt = .ok w') :
    amt ≠ 0 ∧ Paid w w' a src dst amt := by
  cases a with
  | native d => exact ⟨(bankSend_single h).1, bankMove1_paid (bankSend_single h).2⟩
  | token t =>
    obtain ⟨_, _, h0, _⟩ := tokTransfer_ok h
    exact ⟨h0, tokTransfer_paid h⟩

theorem payout_same {w w' : World} {src : Nat} {a : Asset} {dst amt : Nat} (h : payout w src a dst amt = .ok w') :
    Same w w' :=
  (payout_paid h).2.kept.toSame

theorem payout_sameToks {w w' : World} {src : Nat} {a : Asset} {dst amt : Nat} (h : payout w src a dst amt = .ok w') :
    SameToks w w' :=
  (payout_paid h).2.kept.toks

theorem supply_payout {w w' : World} {src : Nat} {a : Asset} {dst amt : Nat} (h : payout w src a dst amt = .ok w')
    (t : Nat) : supply w' t = supply w t :=
  (payout_paid h).2.supply t

theorem supply_attach {w w0 : World} {s p : Nat} {funds : List (Nat × Nat)} (h : attach w s p funds = .ok w0) (t : Nat) :
    supply w0 t = supply w t := by
  simp only [supply, attach_tok h]

/-- the `if`-form of a balance after a move (`Paid.bal`, `P`: "is the payee", `Q`: "is the payer") against the
additive form -/
theorem move_add {P Q : Prop} [Decidable P] [Decidable Q] {v amt : Nat} (h : Q → amt ≤ v) :
    (if P then (if Q then v - amt else v) + amt else if Q then v - amt else v) + (if Q then amt else 0) =
      v + (if P then amt else 0) := by
  by_cases hq : Q
  · simp only [if_pos hq]
    split
    · rw [Nat.sub_add_cancel (h hq)]
    · exact Nat.sub_add_cancel (h hq)
  · simp only [if_neg hq]
    split <;> rfl

namespace Paid
variable {w w' : World} {a : Asset} {src dst amt : Nat}

theorem frame (h : Paid w w' a src dst amt) (b : Asset) {z : Nat} (hs : z ≠ src) (hd : z ≠ dst) :
    Halo.bal w' b z = Halo.bal w b z := by
  rw [h.bal, if_neg hd, if_neg hs, ite_self]

theorem other (h : Paid w w' a src dst amt) {b : Asset} (hb : b ≠ a) (z : Nat) : Halo.bal w' b z = Halo.bal w b z := by
  rw [h.bal, if_neg hb]

theorem credit (h : Paid w w' a src dst amt) (hne : dst ≠ src) : Halo.bal w' a dst = Halo.bal w a dst + amt := by
  rw [h.bal, if_pos rfl, if_pos rfl, if_neg hne]

theorem debit (h : Paid w w' a src dst amt) (hne : dst ≠ src) : Halo.bal w' a src = Halo.bal w a src - amt := by
  rw [h.bal, if_pos rfl, if_neg hne.symm, if_pos rfl]

/-- only the payer loses -/
theorem keep (h : Paid w w' a src dst amt) (b : Asset) {z : Nat} (hs : z ≠ src) : Halo.bal w b z ≤ Halo.bal w' b z := by
  rw [h.bal, if_neg hs]
  split
  · split <;> omega
  · exact Nat.le_refl _

/-- the additive form: no case on whether payer and payee coincide -/
theorem add (h : Paid w w' a src dst amt) (c : Asset) (z : Nat) :
    Halo.bal w' c z + (if c = a ∧ z = src then amt else 0) = Halo.bal w c z + (if c = a ∧ z = dst then amt else 0) := by
  rw [h.bal]
  by_cases hc : c = a
  · subst hc
    simp only [true_and, if_pos]
    exact move_add (fun e => e ▸ h.le)
  · rw [if_neg hc, if_neg (fun e => hc e.1), if_neg (fun e => hc e.1)]

end Paid

theorem Paid.zero (w : World) (a : Asset) (src dst : Nat) : Paid w w a src dst 0 :=
  ⟨Nat.zero_le _, fun b z => by simp only [Nat.sub_zero, Nat.add_zero, ite_self], fun _ => rfl, fun _ _ _ _ => rfl,
    fun _ _ _ e => e, .refl w⟩

theorem Minted.frame {w w' : World} {t sd dst amt : Nat} (h : Minted w w' t sd dst amt) (b : Asset) {z : Nat} (hd : z ≠ dst) :
    Halo.bal w' b z = Halo.bal w b z := by
  rw [h.bal, if_neg (fun e => hd e.2)]

theorem Minted.keep {w w' : World} {t sd dst amt : Nat} (h : Minted w w' t sd dst amt) (b : Asset) (z : Nat) :
    Halo.bal w b z ≤ Halo.bal w' b z := by
  rw [h.bal]
  split
  · exact Nat.le_add_right _ _
  · exact Nat.le_refl _

theorem Minted.add {w w' : World} {t sd dst amt : Nat} (h : Minted w w' t sd dst amt) (b : Asset) (z : Nat) :
    Halo.bal w' b z = Halo.bal w b z + if b = .token t ∧ z = dst then amt else 0 := by
  rw [h.bal]
  split <;> rfl

theorem Minted.supply_add {w w' : World} {t sd dst amt : Nat} (h : Minted w w' t sd dst amt) (u : Nat) :
    Halo.supply w' u = Halo.supply w u + if u = t then amt else 0 := by
  rw [h.supply]
  split <;> rfl

theorem Minted.supply_ne {w w' : World} {t sd dst amt : Nat} (h : Minted w w' t sd dst amt) {u : Nat} (hu : u ≠ t) :
    Halo.supply w' u = Halo.supply w u := by
  rw [h.supply, if_neg hu]

theorem Burnt.frame {w w' : World} {t s amt : Nat} (h : Burnt w w' t s amt) (b : Asset) {z : Nat} (hs : z ≠ s) :
    Halo.bal w' b z = Halo.bal w b z := by
  rw [h.bal, if_neg (fun e => hs e.2)]

theorem Burnt.keep {w w' : World} {t s amt : Nat} (h : Burnt w w' t s amt) (b : Asset) {z : Nat} (hs : z ≠ s) :
    Halo.bal w b z ≤ Halo.bal w' b z :=
  Nat.le_of_eq (h.frame b hs).symm

theorem Burnt.supply_ne {w w' : World} {t s amt : Nat} (h : Burnt w w' t s amt) {u : Nat} (hu : u ≠ t) :
    Halo.supply w' u = Halo.supply w u := by
  rw [h.supply, if_neg hu]

theorem Burnt.supply_le {w w' : World} {t s amt : Nat} (h : Burnt w w' t s amt) (u : Nat) :
    Halo.supply w' u ≤ Halo.supply w u := by
  rw [h.supply]
  split
  · exact Nat.sub_le _ _
  · exact Nat.le_refl _

theorem Unmoved.keep {w w' : World} {o : Nat} (h : Unmoved w w' o) (b : Asset) (z : Nat) : Halo.bal w b z ≤ Halo.bal w' b z :=
  Nat.le_of_eq (h.bal b z).symm

/-! ### a new cw20 contract

The one thing that is done to the ledgers by something other than a primitive: instantiating a cw20 contract (the LP token
of a `CreatePair`) puts an empty ledger at its address, whatever was there. -/

/-- to the ledgers, `w'` is `w` with an empty cw20 contract put at `nl` -/
structure Emptied (w w' : World) (nl : Nat) : Prop where
  bal : ∀ b z, bal w' b z = if b = .token nl then 0 else bal w b z
  supply : ∀ t, supply w' t = if t = nl then 0 else supply w t
  allow : ∀ t o s, allowOf w' t o s = if t = nl then none else allowOf w t o s

theorem emptied_of_tok {w w' : World} {nl : Nat} {T : Token} (hb : w'.bank = w.bank) (ht : w'.tok = (setTok w nl T).tok)
    (hB : T.bal = fun _ => 0) (hS : T.supply = 0) (hA : T.allow = fun _ _ => none) : Emptied w w' nl where
  bal b z := by rw [bal_of_eq (w := setTok w nl T) hb ht, bal_setTok, hB]
  supply t := by rw [supply_of_tok_eq (w := setTok w nl T) ht, supply_setTok, hS]
  allow t o s := by rw [allowOf_of_tok_eq (w := setTok w nl T) ht, allowOf_setTok, hA]

namespace Emptied
variable {w w' : World} {nl : Nat}

/-- at an address that held no cw20 contract nothing changes -/
theorem quiet (h : Emptied w w' nl) (hn : w.tok nl = none) :
    (∀ a z, Halo.bal w' a z = Halo.bal w a z) ∧ (∀ t, Halo.supply w' t = Halo.supply w t) ∧
      (∀ t o s, allowOf w' t o s = allowOf w t o s) :=
  ⟨fun a z => (h.bal a z).trans (ite_eq_right_iff.mpr fun e => by rw [e, bal_token, hn]),
    fun t => (h.supply t).trans (ite_eq_right_iff.mpr fun e => by rw [e, Halo.supply, hn]),
    fun t o s => (h.allow t o s).trans (ite_eq_right_iff.mpr fun e => by rw [e, allowOf, hn])⟩

theorem supply_le (h : Emptied w w' nl) (t : Nat) : Halo.supply w' t ≤ Halo.supply w t := by
  rw [h.supply]
  split
  · exact Nat.zero_le _
  · exact Nat.le_refl _

theorem noNew (h : Emptied w w' nl) (t o s : Nat) (e : allowOf w t o s = none) : allowOf w' t o s = none := by
  rw [h.allow]
  split
  · rfl
  · exact e

end Emptied

/-! ### transfers in additive form

`bal w' c z + (what z paid) = bal w c z + (what z received)` (`Paid.add`): such equations compose by adding them, and stay
true when payer and payee coincide. -/

theorem payout_add {w w' : World} {src : Nat} {a : Asset} {dst amt : Nat} (h : payout w src a dst amt = .ok w')
    (c : Asset) (z : Nat) :
    bal w' c z + (if c = a ∧ z = src then amt else 0) = bal w c z + (if c = a ∧ z = dst then amt else 0) :=
  (payout_paid h).2.add c z

theorem payout_self {w w' : World} {p : Nat} {a : Asset} {n : Nat} (h : payout w p a p n = .ok w')
    (b : Asset) (z : Nat) : bal w' b z = bal w b z :=
  Nat.add_right_cancel (payout_add h b z)

theorem move_of_add {w w' : World} {a : Asset} {src dst n : Nat}
    (hadd : ∀ c z, bal w' c z + (if c = a ∧ z = src then n else 0) = bal w c z + (if c = a ∧ z = dst then n else 0)) :
    (∀ c z, (c ≠ a ∨ (z ≠ src ∧ z ≠ dst)) → bal w' c z = bal w c z) ∧
    (dst ≠ src → bal w' a src = bal w a src - n ∧ bal w' a dst = bal w a dst + n) := by
  refine ⟨fun c z hcz => ?_, fun hsd => ⟨?_, ?_⟩⟩
  · have e := hadd c z
    rw [if_neg (fun h => hcz.elim (· h.1) (·.1 h.2)), if_neg (fun h => hcz.elim (· h.1) (·.2 h.2))] at e
    exact e
  · have e := hadd a src
    rw [if_pos ⟨rfl, rfl⟩, if_neg (fun h => hsd h.2.symm)] at e
    exact Nat.eq_sub_of_add_eq e
  · have e := hadd a dst
    rw [if_neg (fun h => hsd h.2), if_pos ⟨rfl, rfl⟩] at e
    exact e

theorem payout_effect {w w0 : World} {s p amt : Nat} {a : Asset} (hsp : s ≠ p) (h : payout w s a p amt = .ok w0) :
    amt ≠ 0 ∧ amt ≤ bal w a s ∧ bal w0 a p = bal w a p + amt ∧ bal w0 a s = bal w a s - amt ∧
    (∀ c z, (c ≠ a ∨ (z ≠ p ∧ z ≠ s)) → bal w0 c z = bal w c z) := by
  obtain ⟨h0, hp⟩ := payout_paid h
  exact ⟨h0, hp.le, hp.credit hsp.symm, hp.debit hsp.symm, fun c z hc => hc.elim (hp.other · z) fun e => hp.frame c e.2 e.1⟩

theorem balOf_intro {w : World} {a : Asset} (z : Nat) (ha : ∀ t, a = .token t → (w.tok t).isSome) :
    balOf w a z = .ok (bal w a z) := by
  cases a with
  | native d => rfl
  | token t =>
    have h1 := ha t rfl
    cases hT : w.tok t with
    | none => simp [hT] at h1
    | some T => simp [balOf, bal, hT]

theorem supplyOf_intro {w : World} {t : Nat} (ht : (w.tok t).isSome) : supplyOf w t = .ok (supply w t) := by
  cases hT : w.tok t with
  | none => simp [hT] at ht
  | some T => simp [supplyOf, supply, hT]

theorem tokTransfer_intro {w : World} {t src amt : Nat} (dst : Nat) (ht : (w.tok t).isSome) (h0 : amt ≠ 0)
    (hle : amt ≤ bal w (.token t) src) : ∃ w', tokTransfer w t src dst amt = .ok w' := by
  cases hT : w.tok t with
  | none => simp [hT] at ht
  | some T =>
    simp only [bal, hT] at hle
    unfold tokTransfer
    simp only [hT]
    rw [if_neg h0, if_neg (by omega)]
    exact ⟨_, rfl⟩

theorem tokBurn_intro {w : World} {t s amt : Nat} (ht : (w.tok t).isSome) (h0 : amt ≠ 0)
    (hle : amt ≤ bal w (.token t) s) (hs : amt ≤ supply w t) : ∃ w', tokBurn w t s amt = .ok w' := by
  cases hT : w.tok t with
  | none => simp [hT] at ht
  | some T =>
    simp only [bal, hT] at hle
    simp only [supply, hT] at hs
    unfold tokBurn
    simp only [hT]
    rw [if_neg h0, if_neg (by omega), if_neg (by omega)]
    exact ⟨_, rfl⟩

theorem bankSend_single_intro {w : World} {src d amt : Nat} (dst : Nat) (h0 : amt ≠ 0) (hle : amt ≤ w.bank src d) :
    ∃ w', bankSend w src dst [(d, amt)] = .ok w' := by
  unfold bankSend
  simp only [List.filter, h0, ne_eq, not_false_eq_true, decide_true]
  simp only [reduceCtorEq, ↓reduceIte, bankMoveList, bankMove1]
  rw [if_neg (by omega)]
  exact ⟨_, rfl⟩

theorem payout_intro {w : World} {src : Nat} {a : Asset} {amt : Nat} (dst : Nat)
    (ha : ∀ t, a = .token t → (w.tok t).isSome) (h0 : amt ≠ 0) (hle : amt ≤ bal w a src) :
    ∃ w', payout w src a dst amt = .ok w' := by
  cases a with
  | native d => exact bankSend_single_intro dst h0 hle
  | token t => exact tokTransfer_intro dst (ha t rfl) h0 hle

end Halo
