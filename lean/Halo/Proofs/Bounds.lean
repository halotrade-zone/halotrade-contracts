/-
The 128-bit bounds as invariants — proofs for `Halo/Props/C20B.lean`.

  (a) `supply w t < W` is preserved by every ledger primitive (a mint fails when the new supply would reach `W`) and by
      every configuration step, with no freshness assumption (the token of a new pair starts with supply 0 whatever was
      at its address),
  (b) `NativeBound w d` (every duplicate-free list of accounts holds less than `W` of denom `d`) is `Bounded` by `W - 1`,
      which every operation preserves at a denom (`exec_bounded`, the supply term of a denom being 0), with no assumption
      at all,
  (c) `AssetBound` packages what is needed of an asset; it is preserved along every history and bounds every balance,
      which discharges the three 128-bit hypotheses of `C03G.withdraw_live_after_history`.
-/
import Halo.Proofs.Runs
import Halo.Proofs.C07
import Halo.Proofs.Liquidity
import Halo.Proofs.C03G

namespace Halo.Bounds

/-! ## (a) cw20 supplies stay below 2^128 -/

/-- every operation keeps every cw20 supply below 2^128 (no assumption on the operation: a `CreatePair` that reuses a
token address overwrites it with an empty token) -/
theorem supply_lt_W_step {name : Asset → String} {w w' : World} {op : Op} {out : Out}
    (h : exec name w op = .ok (w', out)) (t : Nat) (hb : supply w t < W) : supply w' t < W := by
  obtain ⟨w0, hl, hc⟩ := exec_split h
  have h0 := hl.supply_lt_W t hb
  obtain ⟨_, ht | ⟨_, _, _, _, _, _, _, _, nl, _, k⟩⟩ := cfgStep_ledgers hc
  · rwa [supply_of_tok_eq ht]
  · exact Nat.lt_of_le_of_lt (k.supply_le t) h0

theorem supply_lt_W_run {name : Asset → String} (t : Nat) (ops : List Op) (w : World) (hb : supply w t < W) :
    supply (run name w ops) t < W :=
  Reach.run_preserves (I := fun w => supply w t < W) (fun _ _ _ _ h hb => supply_lt_W_step h t hb) ops w hb

theorem token_bal_lt_W {w : World} {t : Nat} (hk : TokSumOK w t) (hb : supply w t < W) (z : Nat) :
    bal w (.token t) z < W :=
  Nat.lt_of_le_of_lt (Liquidity.tokSumOK_holder hk) hb

theorem tokSumOK_run {name : Asset → String} (t : Nat) (ops : List Op) (w : World) (hk : TokSumOK w t) :
    TokSumOK (run name w ops) t :=
  Reach.run_preserves (I := fun w => TokSumOK w t) (fun _ _ _ _ h hk => Liquidity.tokSumOK_exec hk h) ops w hk

/-! ## (b) native coins in circulation stay below 2^128 -/

/-- the total of denom `d` in circulation is below 2^128: every duplicate-free list of accounts holds less -/
def NativeBound (w : World) (d : Nat) : Prop := ∀ L : List Nat, L.Nodup → sumBal w (.native d) L < W

theorem nativeBound_iff_bounded {w : World} {d : Nat} : NativeBound w d ↔ Bounded (bal w (.native d)) (W - 1) := by
  have := W_pos
  constructor <;> intro h L hL <;> have := h L hL <;> unfold sumBal at * <;> omega

theorem nativeBound_step {name : Asset → String} {w w' : World} {op : Op} {out : Out}
    (h : exec name w op = .ok (w', out)) (d : Nat) (hb : NativeBound w d) : NativeBound w' d :=
  nativeBound_iff_bounded.mpr (exec_bounded h (.native d) (W - 1) (nativeBound_iff_bounded.mp hb))

theorem nativeBound_run {name : Asset → String} (d : Nat) (ops : List Op) (w : World) (hb : NativeBound w d) :
    NativeBound (run name w ops) d :=
  Reach.run_preserves (I := fun w => NativeBound w d) (fun _ _ _ _ h hb => nativeBound_step h d hb) ops w hb

theorem native_bal_lt_W {w : World} {d : Nat} (hb : NativeBound w d) (z : Nat) : bal w (.native d) z < W := by
  have := (nativeBound_iff_bounded.mp hb).point z
  have := W_pos
  omega

/-! ## (c) the payoff: liveness of withdrawals with bounds at genesis only -/

/-- what the ledger guarantees of an asset: a denom circulates less than 2^128; a cw20 token is conserved
(`TokSumOK`) with a supply below 2^128 -/
def AssetBound (w : World) : Asset → Prop
  | .native d => NativeBound w d
  | .token t => TokSumOK w t ∧ supply w t < W

theorem assetBound_bal {w : World} {a : Asset} (h : AssetBound w a) (z : Nat) : bal w a z < W := by
  cases a with
  | native d => exact native_bal_lt_W h z
  | token t => exact token_bal_lt_W h.1 h.2 z

theorem assetBound_step {name : Asset → String} {w w' : World} {op : Op} {out : Out}
    (h : exec name w op = .ok (w', out)) {a : Asset} (hb : AssetBound w a) : AssetBound w' a := by
  cases a with
  | native d => exact nativeBound_step h d hb
  | token t => exact ⟨Liquidity.tokSumOK_exec hb.1 h, supply_lt_W_step h t hb.2⟩

theorem assetBound_run {name : Asset → String} (a : Asset) (ops : List Op) (w : World) (hb : AssetBound w a) :
    AssetBound (run name w ops) a :=
  Reach.run_preserves (I := fun w => AssetBound w a) (fun _ _ _ _ h hb => assetBound_step h hb) ops w hb

theorem bal_lt_W_run {name : Asset → String} (a : Asset) (ops : List Op) (w : World) (hb : AssetBound w a) (z : Nat) :
    bal (run name w ops) a z < W :=
  assetBound_bal (assetBound_run a ops w hb) z

theorem withdraw_live_reachable {name : Asset → String} {p : Nat} {a0 a1 : Asset} {lp : Nat}
    (ops : List Op) (w : World) (hinv : PairInv w p a0 a1 lp) (hv : ValidRun name w ops)
    {h a : Nat} (hhp : h ≠ p) (hvalid : w.badAddr h = false) (ha1 : 1 ≤ a)
    (hab : a ≤ bal (run name w ops) (.token lp) h)
    (hS0 : supply w lp < W) (hb0 : AssetBound w a0) (hb1 : AssetBound w a1)
    (hent0 : (bal (run name w ops) a0 p + 2 * E) * supply (run name w ops) lp ≤ bal (run name w ops) a0 p * a * E)
    (hent1 : (bal (run name w ops) a1 p + 2 * E) * supply (run name w ops) lp ≤ bal (run name w ops) a1 p * a * E) :
    ∃ w' x0 x1, exec name (run name w ops) (.tokSend lp h p a .withdraw) = .ok (w', .withdraw x0 x1) ∧
      2 ≤ x0 ∧ 2 ≤ x1 :=
  C03G.withdraw_live_after_history ops w hinv hv hhp hvalid ha1 hab
    (bal_lt_W_run a0 ops w hb0 p) (bal_lt_W_run a1 ops w hb1 p) (supply_lt_W_run lp ops w hS0) hent0 hent1

end Halo.Bounds
