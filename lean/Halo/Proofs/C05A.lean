/-
C05A proofs — the movement of the deposits of a provision (`Moved`), in the handler's world (`provide_moves`, read off
`Liquidity.provide_effect`) and over the whole transaction (`exec_provide_moves`: a native deposit moved with the attached
funds, a cw20 one in the handler).  Statements live in `Halo/Props/C05A.lean`; the names are in namespace `CallSites`.
-/
import Halo.Proofs.C02A
import Halo.Proofs.Liquidity

namespace Halo.CallSites

/-- exactly `d` of asset `a` moved from `s` to `p` between `w` and `w'`, and nobody else's balance of
`a` changed -/
def Moved (w w' : World) (a : Asset) (s p d : Nat) : Prop :=
  bal w' a p = bal w a p + d ∧ bal w' a s + d = bal w a s ∧ ∀ z, z ≠ s → z ≠ p → bal w' a z = bal w a z

theorem Moved.congr {w w' v v' : World} {a : Asset} {s p d : Nat} (h : Moved v v' a s p d)
    (e : ∀ z, bal w a z = bal v a z) (e' : ∀ z, bal w' a z = bal v' a z) : Moved w w' a s p d := by
  unfold Moved
  simp only [e, e']
  exact h

theorem provide_moves {w0 w' : World} {p : Nat} {P : PairSt} {s : Nat} {funds : List (Nat × Nat)}
    {as0 as1 : Asset} {am0 am1 : Nat} {tol rcv : Option Nat} {m : Nat}
    (hsp : s ≠ p) (hne : P.a0 ≠ P.a1) (hl0 : P.a0 ≠ .token P.lp) (hl1 : P.a1 ≠ .token P.lp)
    (h : pairProvide w0 p P s funds as0 am0 as1 am1 tol rcv = .ok (w', m)) :
    ∃ d0 d1,
      ((as0 = P.a0 ∧ d0 = am0) ∨ (as0 ≠ P.a0 ∧ as1 = P.a0 ∧ d0 = am1)) ∧
      ((as0 = P.a1 ∧ d1 = am0) ∨ (as0 ≠ P.a1 ∧ as1 = P.a1 ∧ d1 = am1)) ∧
      (∀ d, P.a0 = .native d → Spec.c09 d d0 funds = true ∧ ∀ z, bal w' P.a0 z = bal w0 P.a0 z) ∧
      (∀ d, P.a1 = .native d → Spec.c09 d d1 funds = true ∧ ∀ z, bal w' P.a1 z = bal w0 P.a1 z) ∧
      (∀ t, P.a0 = .token t → Moved w0 w' P.a0 s p d0) ∧
      (∀ t, P.a1 = .token t → Moved w0 w' P.a1 s p d1) := by
  obtain ⟨d0, d1, D, -, X⟩ := Liquidity.provide_effect hsp hne hl0 hl1 h
  exact ⟨d0, d1, D.sel0, D.sel1, fun d e => ⟨D.sent0 d e, X.nat0 d e⟩, fun d e => ⟨D.sent1 d e, X.nat1 d e⟩,
    fun t e => ⟨(X.tok0 t e).2, (X.tok0 t e).1, fun z h1 h2 => X.frame _ z h1 h2 hl0⟩,
    fun t e => ⟨(X.tok1 t e).2, (X.tok1 t e).1, fun z h1 h2 => X.frame _ z h1 h2 hl1⟩⟩

theorem exec_provide_moves {w w' : World} {s p : Nat} {funds : List (Nat × Nat)} {P : PairSt}
    {as0 as1 : Asset} {am0 am1 : Nat} {tol rcv : Option Nat} {out : Out}
    (hsp : s ≠ p) (hnd : (funds.map (·.1)).Nodup) (hP : w.pair p = some P)
    (hne : P.a0 ≠ P.a1) (hl0 : P.a0 ≠ .token P.lp) (hl1 : P.a1 ≠ .token P.lp)
    (h : pairExec w s p funds (.provide as0 am0 as1 am1 tol rcv) = .ok (w', out)) :
    ∃ w0 d0 d1 m, attach w s p funds = .ok w0 ∧
      pairProvide w0 p P s funds as0 am0 as1 am1 tol rcv = .ok (w', m) ∧ out = .provide m ∧
      ((as0 = P.a0 ∧ d0 = am0) ∨ (as0 ≠ P.a0 ∧ as1 = P.a0 ∧ d0 = am1)) ∧
      ((as0 = P.a1 ∧ d1 = am0) ∨ (as0 ≠ P.a1 ∧ as1 = P.a1 ∧ d1 = am1)) ∧
      Moved w w' P.a0 s p d0 ∧ Moved w w' P.a1 s p d1 := by
  obtain ⟨P', w0, hP', h0, _, m, hp, he⟩ := pairExec_ok h
  cases hP.symm.trans hP'
  cases he
  obtain ⟨d0, d1, sel0, sel1, N0, N1, T0, T1⟩ := provide_moves hsp hne hl0 hl1 hp
  obtain ⟨F1, F2, F3, F4⟩ := attach_effect hsp hnd h0
  -- a native deposit moved with the funds and not since; a cw20 one moves in the handler, and the funds leave it alone
  have key : ∀ {a : Asset} {dd : Nat},
      (∀ x, a = .native x → Spec.c09 x dd funds = true ∧ ∀ z, bal w' a z = bal w0 a z) →
      (∀ t, a = .token t → Moved w0 w' a s p dd) → Moved w w' a s p dd := by
    intro a dd hn ht
    cases a with
    | native x =>
      obtain ⟨hc, hb⟩ := hn x rfl
      have hc := c09_iff_coinOf.mp hc
      exact Moved.congr ⟨hc ▸ F1 x, hc ▸ F2 x, F3 x⟩ (fun _ => rfl) hb
    | token t => exact (ht t rfl).congr (fun z => (F4 t z).symm) fun _ => rfl
  exact ⟨w0, d0, d1, m, h0, hp, rfl, sel0, sel1, key N0 T0, key N1 T1⟩

end Halo.CallSites
