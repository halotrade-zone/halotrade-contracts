/-
Allowance entries are created only by `IncreaseAllowance`.

No ledger primitive but the cw20 `IncreaseAllowance` makes an allowance entry `(token, owner, spender)` appear
(`Paid.noNew`, `Burnt.noNew`: `TransferFrom` / `BurnFrom` lower an existing entry; `DecreaseAllowance` lowers or removes
one of its sender's: `Led.noNewAllow`), and no configuration step does (a freshly instantiated LP token has none), hence
`exec_noNewAllow`:
an operation creates no allowance entry owned by anybody but its actor.  In particular an account that never submits an
operation (a pair contract, an LP token's own address) never has an allowance entry, so no third party can move its
tokens with `TransferFrom` / `SendFrom` / `BurnFrom` (`PairInv.noAllow`).
Core Lean only.
-/
import Halo.Inv
import Halo.Proofs.Trace

namespace Halo.Allow
open Halo.C07

theorem cfgStep_noNewAllow {w w' : World} {op : Op} (h : cfgStep w op = .ok w') (u o s : Nat)
    (e : allowOf w u o s = none) : allowOf w' u o s = none := by
  obtain ⟨_, ht | ⟨_, _, _, _, _, _, _, _, nl, _, k⟩⟩ := cfgStep_ledgers h
  · exact noNew_of_eq (allowOf_of_tok_eq ht) u o s e
  · exact k.noNew u o s e

theorem exec_noNewAllow {name : Asset → String} {w w' : World} {op : Op} {out : Out}
    (h : exec name w op = .ok (w', out)) (t o s : Nat) (ho : o ≠ actorOf op) (hn : allowOf w t o s = none) :
    allowOf w' t o s = none := by
  obtain ⟨w0, hl, hc⟩ := exec_split h
  exact cfgStep_noNewAllow hc t o s (hl.noNewAllow ho t s hn)

theorem exec_noAllow {name : Asset → String} {w w' : World} {op : Op} {out : Out}
    (h : exec name w op = .ok (w', out)) {o : Nat} (ho : o ≠ actorOf op)
    (hn : ∀ t T, w.tok t = some T → ∀ s, T.allow o s = none) :
    ∀ t T', w'.tok t = some T' → ∀ s, T'.allow o s = none := by
  intro t T' hT' s
  have h0 : allowOf w t o s = none := by
    unfold allowOf
    cases hT : w.tok t with
    | none => rfl
    | some T => exact hn t T hT s
  have := exec_noNewAllow h t o s ho h0
  rwa [allowOf_of_tok hT'] at this

end Halo.Allow
