/-
Proofs for C03 (LP share value never decreases): the order `NonDecr` is reflexive and transitive and
lifts to histories; provisions, withdrawals, out-of-window swaps, donations and burns respect it; the
three pricing functions satisfy the premises.  Statements live in `Halo/Props/C03.lean`.
-/
import Halo.Inv
import Halo.Proofs.C01
import Halo.Proofs.C04

namespace Halo.C03

theorem nonDecr_iff {a b c a' b' c' : Nat} :
    NonDecr (a, b, c) (a', b', c') ↔ (0 < c → 0 < c' ∧ a * b * (c' * c') ≤ a' * b' * (c * c)) :=
  Iff.rfl

theorem nonDecr_refl (v : Nat × Nat × Nat) : NonDecr v v := fun h => ⟨h, Nat.le_refl _⟩

theorem nonDecr_trans {a b c : Nat × Nat × Nat} (h1 : NonDecr a b) (h2 : NonDecr b c) :
    NonDecr a c := by
  obtain ⟨a0, a1, aS⟩ := a
  obtain ⟨b0, b1, bS⟩ := b
  obtain ⟨c0, c1, cS⟩ := c
  rw [nonDecr_iff] at *
  intro ha
  obtain ⟨hb, e1⟩ := h1 ha
  obtain ⟨hc, e2⟩ := h2 hb
  refine ⟨hc, ?_⟩
  have hbb : 0 < bS * bS := Nat.mul_pos hb hb
  apply Nat.le_of_mul_le_mul_right _ hbb
  calc a0 * a1 * (cS * cS) * (bS * bS) = a0 * a1 * (bS * bS) * (cS * cS) := Nat.mul_right_comm ..
    _ ≤ b0 * b1 * (aS * aS) * (cS * cS) := Nat.mul_le_mul_right _ e1
    _ = b0 * b1 * (cS * cS) * (aS * aS) := Nat.mul_right_comm ..
    _ ≤ c0 * c1 * (bS * bS) * (aS * aS) := Nat.mul_le_mul_right _ e2
    _ = c0 * c1 * (aS * aS) * (bS * bS) := Nat.mul_right_comm ..

theorem nonDecr_chain (v : Nat × Nat × Nat) (vs : List (Nat × Nat × Nat))
    (h : List.IsChain NonDecr (v :: vs)) :
    NonDecr v ((v :: vs).getLast (List.cons_ne_nil _ _)) := by
  induction vs generalizing v with
  | nil => exact nonDecr_refl v
  | cons w ws ih =>
    rw [List.isChain_cons_cons] at h
    rw [List.getLast_cons_cons]
    exact nonDecr_trans h.1 (ih w h.2)

/-- both reserves-per-share ratios do not decrease ⇒ the share value does not -/
theorem of_ratios {r0 r1 S r0' r1' S' : Nat}
    (h : 0 < S → 0 < S' ∧ r0 * S' ≤ r0' * S ∧ r1 * S' ≤ r1' * S) :
    NonDecr (r0, r1, S) (r0', r1', S') := by
  rw [nonDecr_iff]
  intro hS
  obtain ⟨hS', e0, e1⟩ := h hS
  refine ⟨hS', ?_⟩
  calc r0 * r1 * (S' * S') = (r0 * S') * (r1 * S') := Nat.mul_mul_mul_comm ..
    _ ≤ (r0' * S) * (r1' * S) := Nat.mul_le_mul e0 e1
    _ = r0' * r1' * (S * S) := Nat.mul_mul_mul_comm ..

private theorem provide_ratio {r S d m : Nat} (h : m * r ≤ d * S) : r * (S + m) ≤ (r + d) * S := by
  rw [Nat.mul_add, Nat.add_mul, Nat.mul_comm r m]
  exact Nat.add_le_add_left h _

theorem provide_nondecr {r0 r1 S d0 d1 m : Nat} (h0 : m * r0 ≤ d0 * S) (h1 : m * r1 ≤ d1 * S) :
    NonDecr (r0, r1, S) (r0 + d0, r1 + d1, S + m) :=
  of_ratios fun _ => ⟨by omega, provide_ratio h0, provide_ratio h1⟩

private theorem withdraw_ratio {r x S a : Nat} (h : x * S ≤ r * a) : r * (S - a) ≤ (r - x) * S := by
  rw [Nat.mul_sub, Nat.sub_mul]
  exact Nat.sub_le_sub_left h _

theorem withdraw_nondecr {r0 r1 S x0 x1 a : Nat} (h0 : x0 * S ≤ r0 * a) (h1 : x1 * S ≤ r1 * a)
    (ha : a < S) : NonDecr (r0, r1, S) (r0 - x0, r1 - x1, S - a) :=
  of_ratios fun _ => ⟨by omega, withdraw_ratio h0, withdraw_ratio h1⟩

theorem swap_nondecr {x y x' y' S : Nat} (h : x * y ≤ x' * y') : NonDecr (x, y, S) (x', y', S) :=
  fun hS => ⟨hS, Nat.mul_le_mul_right _ h⟩

theorem donation_nondecr (r0 r1 S e0 e1 : Nat) : NonDecr (r0, r1, S) (r0 + e0, r1 + e1, S) :=
  swap_nondecr (Nat.mul_le_mul (Nat.le_add_right _ _) (Nat.le_add_right _ _))

theorem burn_nondecr {r0 r1 S b : Nat} (hb : b < S) : NonDecr (r0, r1, S) (r0, r1, S - b) :=
  fun _ => ⟨Nat.sub_pos_of_lt hb,
    Nat.mul_le_mul_left _ (Nat.mul_le_mul (Nat.sub_le _ _) (Nat.sub_le _ _))⟩

theorem lpShare_nondecr {sender : Nat} {req : Requirements} {S d0 d1 p0 p1 m : Nat}
    (hS : S ≠ 0) (h : lpShare sender req S d0 d1 p0 p1 = .ok m) :
    NonDecr (p0, p1, S) (p0 + d0, p1 + d1, S + m) :=
  have hb := (Halo.C04.share_bracket hS h).1
  provide_nondecr hb.1 hb.2

theorem refund_nondecr {r0 r1 a S x0 x1 : Nat}
    (h0 : withdrawRefund r0 a S = .ok x0) (h1 : withdrawRefund r1 a S = .ok x1) (ha : a < S) :
    NonDecr (r0, r1, S) (r0 - x0, r1 - x1, S - a) :=
  withdraw_nondecr (Halo.C04.refund_bracket h0).1 (Halo.C04.refund_bracket h1).1 ha

theorem computeSwap_nondecr {x y a c n s k S : Nat}
    (h : computeSwap x y a c = .ok (n, s, k)) (hw : inWindow x y a = false) :
    NonDecr (x, y, S) (x + a, y - n, S) ∧ NonDecr (y, x, S) (y - n, x + a, S) := by
  have hp := (Halo.C01.reserves_of_not_window h hw).1
  refine ⟨swap_nondecr hp, swap_nondecr ?_⟩
  rw [Nat.mul_comm y x, Nat.mul_comm (y - n)]
  exact hp

/-- the reserves are ⌊2^128 / 10^9⌋, the input a test of the repository pins (`Props/C03.lean`) -/
theorem C03_full_is_false :
    computeSwap 340282366920938463463374607431 340282366920938463463374607431 1 30000000000000000
        = .ok (1, 0, 0) ∧
    ¬ NonDecr (340282366920938463463374607431, 340282366920938463463374607431,
                340282366920938463463374607431)
              (340282366920938463463374607431 + 1, 340282366920938463463374607431 - 1,
                340282366920938463463374607431) := by
  refine ⟨by decide, ?_⟩
  rw [nonDecr_iff]
  decide

end Halo.C03
