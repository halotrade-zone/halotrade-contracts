/-
Non-vacuity of C13X: a concrete cyclic route.  Three pools over the native denoms 0, 1, 2 form a triangle (`wE`), `cyc` is
the route 0 → 1 → 2 → 0; the hypotheses of `exec_route_passthrough` hold of it with user 2 as sender and recipient
(`routeOK_cyc`), and the theorem gives the balances the kernel computes (`cyc_effect`).  `gain` is evaluated in
`Halo/Props/C13X.lean` for recipients that are pairs of the route.
-/
import Halo.Proofs.C13X

namespace Halo.C13X.Example
open Halo.C13W

def rawIdE : Asset → Bytes
  | .native d => [110, d + 2]
  | .token t => [116, t + 2]

def noReq : Requirements := { whitelist := [], min0 := 0, min1 := 0 }

def mkPair (x y lp : Nat) : PairSt :=
  { a0 := .native x, a1 := .native y, d0 := 6, d1 := 6, lp := lp, comm := defaultCommission, req := noReq, factory := 6 }
def mkRec (x y p lp : Nat) : Record :=
  { a0 := .native x, a1 := .native y, pair := p, lp := lp, d0 := 6, d1 := 6, req := noReq, comm := defaultCommission }

/-- users 1 2, factory 6, router 7, three pools over the native denoms 0 1 2 forming a triangle:
pair 11 (0/1), pair 13 (1/2), pair 15 (2/0) -/
def wE : World :=
  { bank := fun a d =>
      if a = 1 ∨ a = 2 then (if d = 0 ∨ d = 1 ∨ d = 2 then 10000000 else 0)
      else if a = 11 then (if d = 0 then 1000000 else if d = 1 then 2000000 else 0)
      else if a = 13 then (if d = 1 then 3000000 else if d = 2 then 1500000 else 0)
      else if a = 15 then (if d = 2 then 4000000 else if d = 0 then 4100000 else 0)
      else 0
    tok := fun _ => none
    pair := fun a => if a = 11 then some (mkPair 0 1 12) else if a = 13 then some (mkPair 1 2 14)
      else if a = 15 then some (mkPair 2 0 16) else none
    facAddr := 6
    owner := 0
    denoms := fun d => if d = 0 ∨ d = 1 ∨ d = 2 then some 6 else none
    registry :=
      regInsert (pairKey (rawIdE (.native 2)) (rawIdE (.native 0))) (mkRec 2 0 15 16)
        (regInsert (pairKey (rawIdE (.native 1)) (rawIdE (.native 2))) (mkRec 1 2 13 14)
          (regInsert (pairKey (rawIdE (.native 0)) (rawIdE (.native 1))) (mkRec 0 1 11 12) []))
    rawId := rawIdE
    router := 7 }

def nameE : Asset → String
  | .native 0 => "a"
  | .native 1 => "b"
  | .native 2 => "c"
  | _ => "z"

/-- the cyclic route 0 → 1 → 2 → 0 -/
def cyc : List (Asset × Asset) := [(.native 0, .native 1), (.native 1, .native 2), (.native 2, .native 0)]

theorem forall_cyc {p : Asset × Asset → Prop} (h0 : p (.native 0, .native 1)) (h1 : p (.native 1, .native 2))
    (h2 : p (.native 2, .native 0)) : ∀ h ∈ cyc, p h :=
  List.forall_mem_cons.2 ⟨h0, List.forall_mem_cons.2 ⟨h1, List.forall_mem_cons.2 ⟨h2, fun _ h => nomatch h⟩⟩⟩

theorem routeOK_cyc : RouteOK wE 2 cyc where
  resolves := forall_cyc
    ⟨mkRec 0 1 11 12, mkPair 0 1 12, rfl, rfl, Or.inl ⟨rfl, rfl⟩, by decide, by decide, by decide⟩
    ⟨mkRec 1 2 13 14, mkPair 1 2 14, rfl, rfl, Or.inl ⟨rfl, rfl⟩, by decide, by decide, by decide⟩
    ⟨mkRec 2 0 15 16, mkPair 2 0 16, rfl, rfl, Or.inl ⟨rfl, rfl⟩, by decide, by decide, by decide⟩
  distinctPairs := by decide +kernel
  routerEmpty := forall_cyc
    (fun b hb _ => by rcases hb with rfl | rfl <;> rfl)
    (fun b hb _ => by rcases hb with rfl | rfl <;> rfl)
    (fun b hb _ => by rcases hb with rfl | rfl <;> rfl)
  rcvNotRouter := by decide
  routerNoPair := rfl

theorem actor2 : IsActor wE 2 := by unfold IsActor; decide

theorem cyc_ok : ∃ v, exec nameE wE (.router 2 [(0, 5000)] (.swapOps cyc none none)) = .ok v :=
  exists_of_isOk (by decide +kernel)

theorem cyc_quote : routerSimulateTop wE 5000 cyc = .ok 5032 := by decide +kernel

theorem cyc_effect : ∃ w' out, exec nameE wE (.router 2 [(0, 5000)] (.swapOps cyc none none)) = .ok (w', out) ∧
    bal w' (.native 0) 2 = 10000032 ∧
    bal w' (.native 0) 7 = 0 ∧ bal w' (.native 1) 7 = 0 ∧ bal w' (.native 2) 7 = 0 ∧
    bal w' (.native 1) 2 = 10000000 ∧ bal w' (.native 2) 2 = 10000000 := by
  obtain ⟨⟨w', out⟩, h⟩ := cyc_ok
  obtain ⟨target, q, htgt, hsim, _, _, hnet, hrcv, _, hrouter, _⟩ :=
    exec_route_passthrough (toAddr := none) routeOK_cyc rfl rfl actor2 h
  cases Option.some.inj htgt
  cases Except.ok.inj (cyc_quote.symm.trans hsim)
  have e1 : bal w' (.native 1) 2 + 0 = bal wE (.native 1) 2 + 0 := hrcv (.native 1)
  have e2 : bal w' (.native 2) 2 + 0 = bal wE (.native 2) 2 + 0 := hrcv (.native 2)
  exact ⟨w', out, h, hnet.trans (by decide),
    hrouter _ ⟨(.native 0, .native 1), List.mem_cons_self, Or.inl rfl⟩,
    hrouter _ ⟨(.native 0, .native 1), List.mem_cons_self, Or.inr rfl⟩,
    hrouter _ ⟨(.native 1, .native 2), List.mem_cons_of_mem _ List.mem_cons_self, Or.inr rfl⟩, e1, e2⟩

/-- the change of `r`'s balance of `b` when user 2 runs the cyclic route with recipient `r` -/
def gain (r : Nat) (b : Asset) : Option Int :=
  match exec nameE wE (.router 2 [(0, 5000)] (.swapOps cyc none (some r))) with
  | .ok (w', _) => some ((bal w' b r : Int) - (bal wE b r : Int))
  | .error _ => none

end Halo.C13X.Example
