/-
Runs of ledger primitives, and what holds along them.

`Led R w w'`: `w'` is reached from `w` by ledger primitives only (bank moves, cw20 transfer / transfer-from / mint /
burn / burn-from / allowance changes), each labelled with the part its accounts play; `R : Roles` says which accounts
may play which part.  What a run does to the ledgers is proved by induction by effect (`Led.byEffect`: across a payment, a
mint, a burn, an allowance change — the records of `WorldBasic.lean`): nothing but the ledgers changes; the frames of
balances, supplies and allowances; who can lose and whose supply can grow; conservation exactly and as a bound; supplies
below 2^128; no allowance entry appearing but by its owner.
Core Lean only.
-/
import Halo.Proofs.Effects

namespace Halo
open C07 (allowOf)

/-- the parts accounts and cw20 contracts play in a run of ledger primitives -/
structure Roles where
  /-- accounts debited: bank / cw20 source, burner, the owner whose allowance is spent -/
  pay : Nat → Prop
  /-- accounts credited -/
  recv : Nat → Prop
  /-- contracts that send `Mint` -/
  mint : Nat → Prop
  /-- cw20 contracts whose supply changes -/
  tok : Nat → Prop
  /-- owners who change their own allowance entries (`IncreaseAllowance` / `DecreaseAllowance`) -/
  grant : Nat → Prop

inductive Led (R : Roles) : World → World → Prop
  | refl (w : World) : Led R w w
  | trans {a b c : World} : Led R a b → Led R b c → Led R a c
  | bank {w w' : World} {src dst d amt : Nat} :
      R.pay src → R.recv dst → bankMove1 w src dst d amt = .ok w' → Led R w w'
  | xfer {w w' : World} {t src dst amt : Nat} :
      R.pay src → R.recv dst → tokTransfer w t src dst amt = .ok w' → Led R w w'
  | xferFrom {w w' : World} {t sp owner dst amt : Nat} :
      R.pay owner → R.recv dst → tokTransferFrom w t sp owner dst amt = .ok w' → Led R w w'
  | mint {w w' : World} {t sd dst amt : Nat} :
      R.mint sd → R.recv dst → R.tok t → tokMint w t sd dst amt = .ok w' → Led R w w'
  | burn {w w' : World} {t sd amt : Nat} :
      R.pay sd → R.tok t → tokBurn w t sd amt = .ok w' → Led R w w'
  | incAllow {w w' : World} {t o sp amt : Nat} :
      R.grant o → tokIncAllow w t o sp amt = .ok w' → Led R w w'
  | burnFrom {w w' : World} {t sp owner amt : Nat} :
      R.pay owner → R.tok t → tokBurnFrom w t sp owner amt = .ok w' → Led R w w'
  | decAllow {w w' : World} {t o sp amt : Nat} :
      R.grant o → tokDecAllow w t o sp amt = .ok w' → Led R w w'

namespace Led
variable {R : Roles} {w w' : World}

/-- Induction on a run by effect: a relation between worlds that is reflexive and transitive and holds across every
payment, mint, burn and allowance change whose accounts play the parts `R` allows holds across the run.  (The motive
mentions the run only so that `induction … using` accepts the principle.) -/
theorem byEffect {motive : (w w' : World) → Led R w w' → Prop}
    (refl : ∀ w, motive w w (.refl w))
    (trans : ∀ {a b c : World} {h1 : Led R a b} {h2 : Led R b c}, motive a b h1 → motive b c h2 → motive a c (h1.trans h2))
    (paid : ∀ {w w' : World} {a : Asset} {src dst amt : Nat} {h : Led R w w'},
      R.pay src → R.recv dst → Paid w w' a src dst amt → motive w w' h)
    (minted : ∀ {w w' : World} {t sd dst amt : Nat} {h : Led R w w'},
      R.mint sd → R.recv dst → R.tok t → Minted w w' t sd dst amt → motive w w' h)
    (burnt : ∀ {w w' : World} {t s amt : Nat} {h : Led R w w'}, R.pay s → R.tok t → Burnt w w' t s amt → motive w w' h)
    (unmoved : ∀ {w w' : World} {o : Nat} {h : Led R w w'}, R.grant o → Unmoved w w' o → motive w w' h)
    (h : Led R w w') : motive w w' h := by
  induction h with
  | refl w => exact refl w
  | trans _ _ ih1 ih2 => exact trans ih1 ih2
  | bank hs hd h => exact paid hs hd (bankMove1_paid h)
  | xfer hs hd h => exact paid hs hd (tokTransfer_paid h)
  | xferFrom hs hd h => exact paid hs hd (tokTransferFrom_paid h)
  | mint hm hd hq h => exact minted hm hd hq (tokMint_minted h)
  | burn hs hq h => exact burnt hs hq (tokBurn_burnt h)
  | incAllow hg h => exact unmoved hg (tokIncAllow_unmoved h)
  | burnFrom hs hq h => exact burnt hs hq (tokBurnFrom_burnt h)
  | decAllow hg h => exact unmoved hg (tokDecAllow_unmoved h)

/-- a run changes the ledgers only -/
theorem kept (h : Led R w w') : LedgerOnly w w' := by
  induction h using byEffect with
  | refl w => exact .refl w
  | trans ih1 ih2 => exact ih1.trans ih2
  | paid _ _ h => exact h.kept
  | minted _ _ _ h => exact h.kept
  | burnt _ _ h => exact h.kept
  | unmoved _ h => exact h.kept

/-- conservation as an inequality, for every asset at once: a bound on the duplicate-free partial sums of the balances
moves with the supply (which is nothing for a native denom).  With `B = 0` this is cw20 conservation `TokSumOK`, with
`B = W - 1` on a denom the bound `NativeBound` on its circulation. -/
theorem bounded (h : Led R w w') (a : Asset) (B : Nat) :
    Bounded (bal w a) (B + supT w a) → Bounded (bal w' a) (B + supT w' a) := by
  induction h using byEffect with
  | refl w => exact id
  | trans ih1 ih2 => exact fun h => ih2 (ih1 h)
  | paid _ _ h => exact h.bounded a
  | minted _ _ _ h => exact h.bounded a
  | burnt _ _ h => exact h.bounded a
  | unmoved _ h => exact h.bounded a

theorem frame (h : Led R w w') (a : Asset) {z : Nat} (hp : ¬ R.pay z) (hr : ¬ R.recv z) :
    bal w' a z = bal w a z := by
  have ne : ∀ {P : Nat → Prop} {x : Nat}, P x → ¬ P z → z ≠ x := fun hx hz e => hz (e ▸ hx)
  induction h using byEffect with
  | refl w => rfl
  | trans ih1 ih2 => exact ih2.trans ih1
  | paid hs hd h => exact h.frame a (ne hs hp) (ne hd hr)
  | minted _ hd _ h => exact h.frame a (ne hd hr)
  | burnt hs _ h => exact h.frame a (ne hs hp)
  | unmoved _ h => exact h.bal a z

/-- only payers lose -/
theorem keep (h : Led R w w') (a : Asset) {z : Nat} (hp : ¬ R.pay z) : bal w a z ≤ bal w' a z := by
  have ne : ∀ {x : Nat}, R.pay x → z ≠ x := fun hx e => hp (e ▸ hx)
  induction h using byEffect with
  | refl w => exact Nat.le_refl _
  | trans ih1 ih2 => exact Nat.le_trans ih1 ih2
  | paid hs _ h => exact h.keep a (ne hs)
  | minted _ _ _ h => exact h.keep a z
  | burnt hs _ h => exact h.keep a (ne hs)
  | unmoved _ h => exact h.keep a z

theorem supply_frame (h : Led R w w') {t : Nat} (ht : ¬ R.tok t) : supply w' t = supply w t := by
  have ne : ∀ {u : Nat}, R.tok u → t ≠ u := fun hu e => ht (e ▸ hu)
  induction h using byEffect with
  | refl w => rfl
  | trans ih1 ih2 => exact ih2.trans ih1
  | paid _ _ h => exact h.supply t
  | minted _ _ hq h => exact h.supply_ne (ne hq)
  | burnt _ hq h => exact h.supply_ne (ne hq)
  | unmoved _ h => exact h.supply t

/-- an allowance entry changes only when its owner is debited or changes it itself -/
theorem allow_frame (h : Led R w w') {o : Nat} (hp : ¬ R.pay o) (hg : ¬ R.grant o) (t s : Nat) :
    allowOf w' t o s = allowOf w t o s := by
  have ne : ∀ {P : Nat → Prop} {x : Nat}, P x → ¬ P o → o ≠ x := fun hx ho e => ho (e ▸ hx)
  induction h using byEffect with
  | refl w => rfl
  | trans ih1 ih2 => exact ih2.trans ih1
  | paid hs _ h => exact h.allow t o s (ne hs hp)
  | minted _ _ _ h => exact h.allow t o s
  | burnt hs _ h => exact h.allow t o s (ne hs hp)
  | unmoved ho h => exact h.allow t o s (ne ho hg)

/-- the supply of a token whose minter is not among the minting contracts never grows -/
theorem supply_le (h : Led R w w') {t m : Nat} (hm : ¬ R.mint m) :
    (∃ T, w.tok t = some T ∧ T.minter = some m) → supply w' t ≤ supply w t := by
  induction h using byEffect with
  | refl w => exact fun _ => Nat.le_refl _
  | @trans a b c h1 _ ih1 ih2 =>
    rintro ⟨T, hT, hTm⟩
    obtain ⟨T', hT', hm'⟩ := h1.kept.minters t T hT
    exact Nat.le_trans (ih2 ⟨T', hT', hm'.trans hTm⟩) (ih1 ⟨T, hT, hTm⟩)
  | paid _ _ h => exact fun _ => Nat.le_of_eq (h.supply t)
  | minted hsd _ _ h =>
    rintro ⟨T, hT, hTm⟩
    refine Nat.le_of_eq (h.supply_ne fun hu => ?_)
    -- the `Mint` was accepted, so its sender is the token's minter
    subst hu
    obtain ⟨T0, hT0, hmin⟩ := h.minter
    cases hT.symm.trans hT0
    cases hTm.symm.trans hmin
    exact hm hsd
  | burnt _ _ h => exact fun _ => h.supply_le t
  | unmoved _ h => exact fun _ => Nat.le_of_eq (h.supply t)

theorem cons (h : Led R w w') (a : Asset) {L : List Nat} (hn : L.Nodup) (hp : ∀ z, R.pay z → z ∈ L)
    (hr : ∀ z, R.recv z → z ∈ L) : ConsAt w w' a L := by
  induction h using byEffect with
  | refl w => rfl
  | trans ih1 ih2 => exact ih1.trans ih2
  | paid hs hd h => exact h.consAt a hn (hp _ hs) (hr _ hd)
  | minted _ hd _ h => exact h.consAt a hn (hr _ hd)
  | burnt hs _ h => exact h.consAt a hn (hp _ hs)
  | unmoved _ h => exact h.consAt a

/-- in a run of ledger primitives an allowance entry appears only by an owner's own `IncreaseAllowance` -/
theorem noNewAllow (h : Led R w w') {o : Nat} (ho : ¬ R.grant o)
    (t s : Nat) : allowOf w t o s = none → allowOf w' t o s = none := by
  induction h using byEffect with
  | refl w => exact id
  | trans ih1 ih2 => exact fun e => ih2 (ih1 e)
  | paid _ _ h => exact h.noNew t o s
  | minted _ _ _ h => exact (h.allow t o s).trans
  | burnt _ _ h => exact h.noNew t o s
  | unmoved hg h => exact (h.allow t o s fun e => ho (e ▸ hg)).trans

/-- ledger primitives keep a supply below 2^128: a mint checks it, nothing else raises it -/
theorem supply_lt_W (h : Led R w w') (t : Nat) :
    supply w t < W → supply w' t < W := by
  induction h using byEffect with
  | refl w => exact id
  | trans ih1 ih2 => exact fun h => ih2 (ih1 h)
  | paid _ _ h => rw [h.supply]; exact id
  | minted _ _ _ h =>
    intro hb
    rw [h.supply]
    split
    · rename_i hu
      exact hu ▸ h.lt
    · exact hb
  | burnt _ _ h => exact Nat.lt_of_le_of_lt (h.supply_le t)
  | unmoved _ h => rw [h.supply]; exact id

end Led

end Halo
