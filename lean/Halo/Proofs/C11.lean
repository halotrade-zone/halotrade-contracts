/-
C11 — router delivers at least `minimum_receive` or the whole route reverts.
Only the final `assert_minium_receive` message matters (`routerSwapOps_ok`); nothing about the hops is needed.
-/
import Halo.Proofs.Handlers

namespace Halo.C11

theorem route_min_receive {name : Asset → String} {w w' : World} {sender m : Nat} {ops : List (Asset × Asset)}
    {to : Option Nat} (h : routerSwapOps name w sender ops (some m) to = .ok w') :
    ∃ o target, ops.getLast? = some (o, target) ∧
      bal w target (to.getD sender) + m ≤ bal w' target (to.getD sender) := by
  obtain ⟨⟨o, target⟩, hl, _, _, hmin⟩ := routerSwapOps_ok h
  obtain ⟨h1, h2⟩ := hmin m rfl
  exact ⟨o, target, hl, Nat.add_le_of_le_sub' h1 h2⟩

theorem exec_min_receive {name : Asset → String} {w w' : World} {s m : Nat} {funds : List (Nat × Nat)}
    {ops : List (Asset × Asset)} {to : Option Nat}
    (h : routerExec name w s funds (.swapOps ops (some m) to) = .ok w') :
    ∃ w0 o target, attach w s w.router funds = .ok w0 ∧ ops.getLast? = some (o, target) ∧
      bal w0 target (to.getD s) + m ≤ bal w' target (to.getD s) := by
  obtain ⟨w0, h0, _, h1⟩ := routerExec_ok h
  obtain ⟨o, target, hl, hb⟩ := route_min_receive h1
  exact ⟨w0, o, target, h0, hl, hb⟩

/-- a cw20 `Send` carrying a route: its recipient is the router (a pair rejects the hook); the transfer, then
`execute_swap_operations` on behalf of the sender -/
theorem tokSend_route_ok {name : Asset → String} {w w' : World} {t s d amt : Nat} {ops : List (Asset × Asset)}
    {mn to : Option Nat} {out : Out}
    (h : tokSend name w t s d amt (.routerOps ops mn to) = .ok (w', out)) :
    d = w.router ∧ ∃ w0, tokTransfer w t s d amt = .ok w0 ∧ routerSwapOps name w0 s ops mn to = .ok w' := by
  obtain ⟨w0, htr, ⟨_, hrc⟩ | ⟨_, hd, _, hrc⟩⟩ := tokSend_ok h
  · exact absurd hrc pairReceive_routerOps
  · obtain ⟨_, _, _, he, _, _, h⟩ := routerReceive_ok hrc
    cases he
    exact ⟨hd, w0, htr, h⟩

theorem send_min_receive {name : Asset → String} {w w' : World} {t u amt m : Nat}
    {ops : List (Asset × Asset)} {to : Option Nat} {out : Out}
    (hr : (w.pair w.router).isNone)
    (h : tokSend name w t u w.router amt (.routerOps ops (some m) to) = .ok (w', out)) :
    ∃ w0 o target, tokTransfer w t u w.router amt = .ok w0 ∧ ops.getLast? = some (o, target) ∧
      bal w0 target (to.getD u) + m ≤ bal w' target (to.getD u) := by
  obtain ⟨-, w0, h1, h2⟩ := tokSend_route_ok h
  obtain ⟨o, target, hl, hb⟩ := route_min_receive h2
  exact ⟨w0, o, target, h1, hl, hb⟩

theorem empty_route_rejected {name : Asset → String} {w w' : World} {sender : Nat} {m to : Option Nat} :
    routerSwapOps name w sender [] m to ≠ .ok w' := by
  intro h
  obtain ⟨_, hl, _⟩ := routerSwapOps_ok h
  cases hl

end Halo.C11
