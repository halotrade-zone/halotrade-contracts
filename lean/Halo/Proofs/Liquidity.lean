/-
Liquidity at world level: what a withdrawal and a provision do to every balance and supply (C04W `withdraw_effect`,
C05W `provide_effect_pos`, `provide_effect_empty`), that an entitled withdrawal succeeds (C20 `withdraw_live`), cw20
conservation `TokSumOK` as an invariant (`tokSumOK_exec`; `tokSumOK_step` is the statement of C20), and the reserved
unit (`reserved_unit_unspendable`).
Statements live in `Halo/Props/C04W.lean`, `Halo/Props/C05W.lean`, `Halo/Props/C20.lean`.

Each handler is a few ledger steps on distinct assets (`pairWithdraw_ok`, `pairProvide_ok`): its effect is stated once, as
a record of what happened to each balance.  A withdrawal always has the LP tokens paid to the pair in front (a `Send` by
their owner or a `SendFrom` by a spender), so `pairWithdraw_effect` takes that payment along and `Withdrawn` speaks of the
world before it.  A provision is stated in the world the handler runs in (`provide_effect`: `Deposits`, `Provided`, both
supply cases in one formula through `lpReserved`; `provide_mints` is the part that needs no side condition), and the
transaction-level statements add the attached funds in front.
-/
import Halo.Inv
import Halo.Proofs.C04
import Halo.Spec
import Halo.Proofs.C14
import Halo.Proofs.Flows

namespace Halo.Liquidity

/-- what a withdrawal of `a` LP tokens did between `w` and `w'`: `o` paid them to the pair, where they were burnt, and the
refunds `x0`, `x1` went from the pair to the sender `s` of the hook (`o` itself, or the spender of `o`'s allowance) -/
structure Withdrawn (w w' : World) (p : Nat) (P : PairSt) (o s a x0 x1 : Nat) : Prop where
  paid : bal w' (.token P.lp) o + a = bal w (.token P.lp) o
  lp : bal w' (.token P.lp) p = bal w (.token P.lp) p
  res0 : bal w' P.a0 p + x0 = bal w P.a0 p
  res1 : bal w' P.a1 p + x1 = bal w P.a1 p
  got0 : bal w' P.a0 s = bal w P.a0 s + x0
  got1 : bal w' P.a1 s = bal w P.a1 s + x1
  frame : ∀ b z, z ≠ p → z ≠ s ∨ (b ≠ P.a0 ∧ b ≠ P.a1) → z ≠ o ∨ b ≠ .token P.lp → bal w' b z = bal w b z
  supply : ∀ u, supply w' u = if u = P.lp then supply w u - a else supply w u

/-- `withdraw_liquidity` once `o` has sent the LP tokens to the pair (`w1`), relative to the world `w` before that: both
refunds are computed from the reserves and the supply of `w`, which the transfer leaves as they are -/
theorem pairWithdraw_effect {w w1 w' : World} {p : Nat} {P : PairSt} {o s a x0 x1 : Nat}
    (hop : o ≠ p) (hsp : s ≠ p) (hne : P.a0 ≠ P.a1) (hl0 : P.a0 ≠ .token P.lp) (hl1 : P.a1 ≠ .token P.lp)
    (hpd : Paid w w1 (.token P.lp) o p a) (h : pairWithdraw w1 p P s a = .ok (w', x0, x1)) :
    withdrawRefund (bal w P.a0 p) a (supply w P.lp) = .ok x0 ∧
    withdrawRefund (bal w P.a1 p) a (supply w P.lp) = .ok x1 ∧
    a ≠ 0 ∧ a ≤ supply w P.lp ∧ Withdrawn w w' p P o s a x0 x1 := by
  obtain ⟨_, hx0, hx1, w2, w3, hp0, hp1, hb⟩ := pairWithdraw_ok h
  have q0 := (payout_paid hp0).2
  have q1 := (payout_paid hp1).2
  have B := (tokBurn_burnt hb).bal
  have hbs := (tokBurn_burnt hb).le_supply
  obtain ⟨-, -, ha, -⟩ := tokBurn_ok hb
  have hpo := Ne.symm hop
  -- each of the four steps moves one asset; the assets are distinct
  have j0 : ∀ z, bal w1 P.a0 z = bal w P.a0 z := hpd.other hl0
  have i1 : ∀ z, bal w1 P.a1 z = bal w P.a1 z := hpd.other hl1
  have j1 : ∀ z, bal w2 P.a1 z = bal w P.a1 z := fun z => by rw [q0.other (Ne.symm hne), i1]
  have k0 : ∀ z, bal w' P.a0 z = bal w2 P.a0 z := fun z => by rw [B, if_neg (fun e => hl0 e.1), q1.other hne]
  have k1 : ∀ z, bal w' P.a1 z = bal w3 P.a1 z := fun z => by rw [B, if_neg (fun e => hl1 e.1)]
  have kl : ∀ z, bal w3 (.token P.lp) z = bal w1 (.token P.lp) z := fun z => by
    rw [q1.other (Ne.symm hl1), q0.other (Ne.symm hl0)]
  rw [q1.supply, q0.supply, hpd.supply] at hbs
  rw [j0, hpd.supply] at hx0
  rw [i1, hpd.supply] at hx1
  exact ⟨hx0, hx1, ha, hbs,
    { paid := by rw [B, if_neg (fun e => hop e.2), kl, hpd.debit hpo]; exact Nat.sub_add_cancel hpd.le
      lp := by rw [B, if_pos ⟨rfl, rfl⟩, kl, hpd.credit hpo]; exact Nat.add_sub_cancel ..
      res0 := by rw [k0, q0.debit hsp, j0]; exact Nat.sub_add_cancel (j0 p ▸ q0.le)
      res1 := by rw [k1, q1.debit hsp, j1]; exact Nat.sub_add_cancel (j1 p ▸ q1.le)
      got0 := by rw [k0, q0.credit hsp, j0]
      got1 := by rw [k1, q1.credit hsp, j1]
      frame := fun b z hz hc ho => by
        rw [B, if_neg (fun e => hz e.2), hc.elim (fun e => q1.frame b hz e) (fun e => q1.other e.2 z),
          hc.elim (fun e => q0.frame b hz e) (fun e => q0.other e.1 z),
          ho.elim (fun e => hpd.frame b e hz) (fun e => hpd.other e z)]
      supply := fun u => by rw [(tokBurn_burnt hb).supply, q1.supply, q0.supply, hpd.supply] }⟩

/-- C04 at system level: the effect of a withdrawal `lp.Send{pair, a, WithdrawLiquidity}` by holder `h` -/
theorem withdraw_effect {w w' : World} {t h p a x0 x1 : Nat} {P : PairSt}
    (hP : w.pair p = some P) (hhp : h ≠ p) (hne : P.a0 ≠ P.a1) (hl0 : P.a0 ≠ .token P.lp) (hl1 : P.a1 ≠ .token P.lp)
    (hx : tokSendPair w t h p a .withdraw = .ok (w', .withdraw x0 x1)) :
    t = P.lp ∧ 1 ≤ a ∧ a ≤ bal w (.token P.lp) h ∧
    Spec.c04 (bal w P.a0 p) a (supply w P.lp) x0 = true ∧ Spec.c04 (bal w P.a1 p) a (supply w P.lp) x1 = true ∧
    supply w' P.lp + a = supply w P.lp ∧
    bal w' (.token P.lp) h + a = bal w (.token P.lp) h ∧
    bal w' (.token P.lp) p = bal w (.token P.lp) p ∧
    bal w' P.a0 h = bal w P.a0 h + x0 ∧ bal w' P.a1 h = bal w P.a1 h + x1 ∧
    bal w' P.a0 p + x0 = bal w P.a0 p ∧ bal w' P.a1 p + x1 = bal w P.a1 p ∧
    (∀ b z, z ≠ h → z ≠ p → bal w' b z = bal w b z) ∧
    (∀ u, u ≠ P.lp → supply w' u = supply w u) := by
  obtain ⟨w0, htr, hrc⟩ := tokSendPair_ok hx
  obtain ⟨P', hP', rfl, _, w'', y0, y1, hpw, he⟩ := pairReceive_withdraw hrc
  rw [(tokTransfer_paid htr).kept.pair, hP] at hP'
  cases hP'
  cases he
  have hpd := tokTransfer_paid htr
  obtain ⟨hx0, hx1, ha, hS, X⟩ := pairWithdraw_effect hhp hhp hne hl0 hl1 hpd hpw
  have ha1 : 1 ≤ a := Nat.pos_of_ne_zero ha
  refine ⟨rfl, ha1, hpd.le, C04.refund_bounds hx0 ha1 hS, C04.refund_bounds hx1 ha1 hS, ?_, X.paid, X.lp, X.got0, X.got1,
    X.res0, X.res1, fun b z hz1 hz2 => X.frame b z hz2 (.inl hz1) (.inl hz1), fun u hu => by rw [X.supply, if_neg hu]⟩
  rw [X.supply, if_pos rfl]
  exact Nat.sub_add_cancel hS

/-! ### C20: a legal withdrawal succeeds -/

/-- a withdrawal by a holder of the LP tokens succeeds as soon as both refunds are computed and are not zero (the bank
and cw20 reject zero transfers): each step of the transaction finds the balance it spends -/
theorem withdraw_succeeds {w : World} {p h a x0 x1 : Nat} {P : PairSt}
    (hP : w.pair p = some P) (hhp : h ≠ p) (hvalid : w.badAddr h = false)
    (hne : P.a0 ≠ P.a1) (hl0 : P.a0 ≠ .token P.lp) (hl1 : P.a1 ≠ .token P.lp)
    (hlp : (w.tok P.lp).isSome)
    (ht0 : ∀ t, P.a0 = .token t → (w.tok t).isSome) (ht1 : ∀ t, P.a1 = .token t → (w.tok t).isSome)
    (ha0 : a ≠ 0) (hab : a ≤ bal w (.token P.lp) h) (haS : a ≤ supply w P.lp)
    (hx0 : withdrawRefund (bal w P.a0 p) a (supply w P.lp) = .ok x0)
    (hx1 : withdrawRefund (bal w P.a1 p) a (supply w P.lp) = .ok x1) (h0 : x0 ≠ 0) (h1 : x1 ≠ 0) :
    ∃ w', tokSendPair w P.lp h p a .withdraw = .ok (w', .withdraw x0 x1) := by
  have hph := Ne.symm hhp
  -- the cw20 transfer of the LP tokens to the pair leaves the reserves and the supply as they were
  obtain ⟨w0, htr⟩ := tokTransfer_intro p hlp ha0 hab
  have pt := tokTransfer_paid htr
  have sT := pt.supply
  have k0 := pt.kept.toks
  have r0 := pt.other hl0 p
  have r1 := pt.other hl1 p
  -- the two payouts and the burn
  obtain ⟨w1, hp0⟩ := payout_intro (w := w0) (src := p) (a := P.a0) (amt := x0) h
    (fun t e => by rw [k0]; exact ht0 t e) h0 (by rw [r0]; exact C04.refund_le_reserve hx0 haS)
  have p0 := (payout_paid hp0).2
  have k1 := p0.kept.toks
  obtain ⟨w2, hp1⟩ := payout_intro (w := w1) (src := p) (a := P.a1) (amt := x1) h
    (fun t e => by rw [k1, k0]; exact ht1 t e) h1
    (by rw [p0.other (Ne.symm hne), r1]; exact C04.refund_le_reserve hx1 haS)
  have p1 := (payout_paid hp1).2
  have k2 := p1.kept.toks
  obtain ⟨w3, hb⟩ := tokBurn_intro (w := w2) (t := P.lp) (s := p) (amt := a) (by rw [k2, k1, k0]; exact hlp) ha0
    (by rw [p1.other (Ne.symm hl1), p0.other (Ne.symm hl0), pt.credit hph]; exact Nat.le_add_left a _)
    (by rw [p1.supply, p0.supply, sT]; exact haS)
  refine ⟨w3, ?_⟩
  -- the handlers, run on these results
  obtain ⟨hS0, hρ, hm0, e0⟩ := C04.refund_ok_iff.mp hx0
  obtain ⟨-, -, hm1, e1⟩ := C04.refund_ok_iff.mp hx1
  have q0 : balOf w0 P.a0 p = .ok (bal w P.a0 p) := r0 ▸ balOf_intro p (fun t e => by rw [k0]; exact ht0 t e)
  have q1 : balOf w0 P.a1 p = .ok (bal w P.a1 p) := r1 ▸ balOf_intro p (fun t e => by rw [k0]; exact ht1 t e)
  have qS : supplyOf w0 P.lp = .ok (supply w P.lp) := sT P.lp ▸ supplyOf_intro (by rw [k0]; exact hlp)
  have hv0 : validAddr w0 h = .ok () := validAddr_ok_iff.mpr (by rw [pt.kept.badAddr]; exact hvalid)
  unfold tokSendPair
  rw [htr, ok_bind]
  unfold pairReceive
  rw [pt.kept.pair]
  simp only [hP, ne_eq, not_true_eq_false, ↓reduceIte]
  rw [hv0, ok_bind]
  unfold pairWithdraw
  simp only [q0, q1, qS, Cw.decFromRatio_ok.mpr ⟨hS0, hρ, rfl⟩, Cw.mulDec_ok.mpr ⟨e0 ▸ hm0, e0⟩,
    Cw.mulDec_ok.mpr ⟨e1 ▸ hm1, e1⟩, hp0, hp1, hb, ok_bind]
  rfl

theorem withdraw_live {w : World} {p h a : Nat} {P : PairSt}
    (hP : w.pair p = some P) (hhp : h ≠ p) (hvalid : w.badAddr h = false)
    (hne : P.a0 ≠ P.a1) (hl0 : P.a0 ≠ .token P.lp) (hl1 : P.a1 ≠ .token P.lp)
    (hlp : (w.tok P.lp).isSome)
    (ht0 : ∀ t, P.a0 = .token t → (w.tok t).isSome) (ht1 : ∀ t, P.a1 = .token t → (w.tok t).isSome)
    (ha1 : 1 ≤ a) (hab : a ≤ bal w (.token P.lp) h) (haS : a ≤ supply w P.lp)
    (hr0 : bal w P.a0 p < W) (hr1 : bal w P.a1 p < W) (hSW : supply w P.lp < W)
    (hent0 : (bal w P.a0 p + 2 * E) * supply w P.lp ≤ bal w P.a0 p * a * E)
    (hent1 : (bal w P.a1 p + 2 * E) * supply w P.lp ≤ bal w P.a1 p * a * E) :
    ∃ w' x0 x1, tokSendPair w P.lp h p a .withdraw = .ok (w', .withdraw x0 x1) ∧ 2 ≤ x0 ∧ 2 ≤ x1 := by
  have hSpos : 0 < supply w P.lp := Nat.lt_of_lt_of_le ha1 haS
  -- below 2^128 the refund arithmetic cannot abort, and the entitlement makes each refund at least 2
  obtain ⟨x0, hx0⟩ := C04.refund_total (r := bal w P.a0 p) hSpos haS hr0 hSW
  obtain ⟨x1, hx1⟩ := C04.refund_total (r := bal w P.a1 p) hSpos haS hr1 hSW
  have h20 := C04.refund_ge_two hx0 ha1 haS hent0
  have h21 := C04.refund_ge_two hx1 ha1 haS hent1
  obtain ⟨w', hw⟩ := withdraw_succeeds hP hhp hvalid hne hl0 hl1 hlp ht0 ht1 (Nat.ne_of_gt ha1) hab haS hx0 hx1
    (Nat.ne_of_gt (Nat.lt_of_lt_of_le Nat.two_pos h20)) (Nat.ne_of_gt (Nat.lt_of_lt_of_le Nat.two_pos h21))
  exact ⟨w', x0, x1, hw, h20, h21⟩

/-- what the first provision (`S = 0`) sets aside: `LP_TOKEN_RESERVED_AMOUNT`, minted to the LP token's own address -/
def lpReserved (S : Nat) : Nat := if S = 0 then 1 else 0

theorem lpReserved_of_eq {S : Nat} (h : S = 0) : lpReserved S = 1 := if_pos h
theorem lpReserved_of_ne {S : Nat} (h : S ≠ 0) : lpReserved S = 0 := if_neg h

/-- the deposits `d0`, `d1` of a provision: the amounts declared for the pair's two assets, in pair order; for a native
asset that is what `assert_sent_native_token_balance` compared with the attached funds -/
structure Deposits (P : PairSt) (funds : List (Nat × Nat)) (as0 : Asset) (am0 : Nat) (as1 : Asset) (am1 d0 d1 : Nat) :
    Prop where
  sel0 : (as0 = P.a0 ∧ d0 = am0) ∨ (as0 ≠ P.a0 ∧ as1 = P.a0 ∧ d0 = am1)
  sel1 : (as0 = P.a1 ∧ d1 = am0) ∨ (as0 ≠ P.a1 ∧ as1 = P.a1 ∧ d1 = am1)
  sent0 : ∀ x, P.a0 = .native x → Spec.c09 x d0 funds = true
  sent1 : ∀ x, P.a1 = .native x → Spec.c09 x d1 funds = true

theorem selected_c09 {as0 as1 a : Asset} {am0 am1 d x : Nat} {funds : List (Nat × Nat)}
    (hs0 : assertSent as0 am0 funds = .ok ()) (hs1 : assertSent as1 am1 funds = .ok ())
    (sel : (as0 = a ∧ d = am0) ∨ (as0 ≠ a ∧ as1 = a ∧ d = am1)) (e : a = .native x) : Spec.c09 x d funds = true := by
  rcases sel with ⟨e0, rfl⟩ | ⟨_, e1, rfl⟩
  · exact C14.assertSent_native hs0 (e0.trans e)
  · exact C14.assertSent_native hs1 (e1.trans e)

/-- `provide_liquidity`, in the world `w` that holds the attached funds: the deposits are pulled (`w1`, `w2`); then the
share computed in `w` is minted, to the receiver but for what the first provision sets aside.  The mints touch only the
LP token. -/
theorem provide_mints {w w' : World} {p : Nat} {P : PairSt} {s : Nat} {funds : List (Nat × Nat)}
    {as0 as1 : Asset} {am0 am1 : Nat} {tol rcv : Option Nat} {m : Nat}
    (h : pairProvide w p P s funds as0 am0 as1 am1 tol rcv = .ok (w', m)) :
    ∃ d0 d1 w1 w2,
      (∀ b z, bal w' b z = bal w2 b z + (if b = .token P.lp ∧ z = P.lp then lpReserved (supply w P.lp) else 0) +
        if b = .token P.lp ∧ z = rcv.getD s then m else 0) ∧
      (∀ u, supply w' u = supply w u + if u = P.lp then m + lpReserved (supply w P.lp) else 0) ∧
      pull w P.a0 p s d0 = .ok w1 ∧ pull w1 P.a1 p s d1 = .ok w2 ∧ m ≠ 0 ∧
      Deposits P funds as0 am0 as1 am1 d0 d1 ∧
      lpShare s P.req (supply w P.lp) d0 d1 (netPool P.a0 (bal w P.a0 p) d0) (netPool P.a1 (bal w P.a1 p) d1)
        = .ok (m + lpReserved (supply w P.lp)) := by
  obtain ⟨d0, d1, share, w1, w2, w3, ⟨hs0, hs1, sel0, sel1, -, hshare, -, h1, h2, hcase, -, hmint⟩⟩ :=
    Halo.pairProvide_ok h
  obtain ⟨-, -, hm0, -⟩ := tokMint_ok hmint
  -- the reserved unit, if any, is minted first (`w3`)
  obtain ⟨hsh, B3, S3⟩ : share = m + lpReserved (supply w P.lp) ∧
      (∀ b z, bal w3 b z = bal w2 b z + if b = .token P.lp ∧ z = P.lp then lpReserved (supply w P.lp) else 0) ∧
      (∀ u, supply w3 u = supply w2 u + if u = P.lp then lpReserved (supply w P.lp) else 0) := by
    rcases hcase with ⟨h0, hsh, hr⟩ | ⟨h0, hsh, rfl⟩
    · rw [lpReserved_of_eq h0]
      exact ⟨hsh, (tokMint_minted hr).add, (tokMint_minted hr).supply_add⟩
    · rw [lpReserved_of_ne h0]
      exact ⟨hsh, fun _ _ => by rw [ite_self]; rfl, fun _ => by rw [ite_self]; rfl⟩
  refine ⟨d0, d1, w1, w2, fun b z => by rw [(tokMint_minted hmint).add, B3], fun u => ?_, h1, h2, hm0,
    ⟨sel0, sel1, fun x => selected_c09 hs0 hs1 sel0, fun x => selected_c09 hs0 hs1 sel1⟩, hsh ▸ hshare⟩
  rw [(tokMint_minted hmint).supply_add, S3, supply_pull h2, supply_pull h1]
  split <;> omega

/-- what a provision of `d0`, `d1` by a sender `s` other than the pair did between `w` and `w'`: a native pair asset does
not move (it came with the funds), a cw20 one goes from `s` to the pair; `m` LP tokens are minted to `r`, and what the
first provision sets aside to the LP token's own address -/
structure Provided (w w' : World) (p : Nat) (P : PairSt) (s r d0 d1 m : Nat) : Prop where
  pos : m ≠ 0
  nat0 : ∀ x, P.a0 = .native x → ∀ z, bal w' P.a0 z = bal w P.a0 z
  nat1 : ∀ x, P.a1 = .native x → ∀ z, bal w' P.a1 z = bal w P.a1 z
  tok0 : ∀ t, P.a0 = .token t → bal w' P.a0 s + d0 = bal w P.a0 s ∧ bal w' P.a0 p = bal w P.a0 p + d0
  tok1 : ∀ t, P.a1 = .token t → bal w' P.a1 s + d1 = bal w P.a1 s ∧ bal w' P.a1 p = bal w P.a1 p + d1
  lp : ∀ z, bal w' (.token P.lp) z =
    bal w (.token P.lp) z + (if z = P.lp then lpReserved (supply w P.lp) else 0) + if z = r then m else 0
  frame : ∀ b z, z ≠ s → z ≠ p → b ≠ .token P.lp → bal w' b z = bal w b z
  supply : ∀ u, supply w' u = supply w u + if u = P.lp then m + lpReserved (supply w P.lp) else 0

/-- C05 at system level, both supply cases -/
theorem provide_effect {w w' : World} {p : Nat} {P : PairSt} {s : Nat} {funds : List (Nat × Nat)}
    {as0 as1 : Asset} {am0 am1 : Nat} {tol rcv : Option Nat} {m : Nat}
    (hsp : s ≠ p) (hne : P.a0 ≠ P.a1) (hl0 : P.a0 ≠ .token P.lp) (hl1 : P.a1 ≠ .token P.lp)
    (h : pairProvide w p P s funds as0 am0 as1 am1 tol rcv = .ok (w', m)) :
    ∃ d0 d1, Deposits P funds as0 am0 as1 am1 d0 d1 ∧
      lpShare s P.req (supply w P.lp) d0 d1 (netPool P.a0 (bal w P.a0 p) d0) (netPool P.a1 (bal w P.a1 p) d1)
        = .ok (m + lpReserved (supply w P.lp)) ∧
      Provided w w' p P s (rcv.getD s) d0 d1 m := by
  obtain ⟨d0, d1, w1, w2, M, sup, h1, h2, hm, D, hshare⟩ := provide_mints h
  obtain ⟨An, At, Af⟩ := pull_effect h1 hsp
  obtain ⟨Bn, Bt, Bf⟩ := pull_effect h2 hsp
  have M' : ∀ b z, b ≠ .token P.lp → bal w' b z = bal w2 b z := fun b z hb => by
    rw [M, if_neg (fun e => hb e.1), if_neg (fun e => hb e.1)]
    rfl
  -- each pull moves one pair asset; the assets are distinct
  have k0 : ∀ z, bal w' P.a0 z = bal w1 P.a0 z := fun z => by rw [M' _ _ hl0, pull_other h2 hne]
  have k1 : ∀ z, bal w' P.a1 z = bal w2 P.a1 z := fun z => M' _ _ hl1
  have j1 : ∀ z, bal w1 P.a1 z = bal w P.a1 z := pull_other h1 (Ne.symm hne)
  have kl : ∀ z, bal w2 (.token P.lp) z = bal w (.token P.lp) z := fun z => by
    rw [pull_other h2 (Ne.symm hl1), pull_other h1 (Ne.symm hl0)]
  exact ⟨d0, d1, D, hshare,
    { pos := hm
      nat0 := fun x e z => by rw [k0, An x e]
      nat1 := fun x e z => by rw [k1, Bn x e, j1]
      tok0 := fun t e => by rw [k0, k0]; exact At t e
      tok1 := fun t e => by rw [k1, k1, ← j1, ← j1]; exact Bt t e
      lp := fun z => by rw [M, kl]; simp only [true_and]
      frame := fun b z h1 h2 hb => by rw [M' _ _ hb, Bf _ _ h1 h2, Af _ _ h1 h2]
      supply := sup }⟩

theorem provide_effect_pos {w0 w' : World} {p : Nat} {P : PairSt} {s : Nat} {funds : List (Nat × Nat)}
    {as0 as1 : Asset} {am0 am1 : Nat} {tol rcv : Option Nat} {m : Nat}
    (hsp : s ≠ p) (hne : P.a0 ≠ P.a1) (hl0 : P.a0 ≠ .token P.lp) (hl1 : P.a1 ≠ .token P.lp)
    (hS : supply w0 P.lp ≠ 0)
    (h : pairProvide w0 p P s funds as0 am0 as1 am1 tol rcv = .ok (w', m)) :
    ∃ d0 d1,
      ((as0 = P.a0 ∧ d0 = am0) ∨ (as0 ≠ P.a0 ∧ as1 = P.a0 ∧ d0 = am1)) ∧
      ((as0 = P.a1 ∧ d1 = am0) ∨ (as0 ≠ P.a1 ∧ as1 = P.a1 ∧ d1 = am1)) ∧
      (∀ d, P.a0 = .native d → Spec.c09 d d0 funds = true ∧ bal w' P.a0 p = bal w0 P.a0 p) ∧
      (∀ d, P.a1 = .native d → Spec.c09 d d1 funds = true ∧ bal w' P.a1 p = bal w0 P.a1 p) ∧
      (∀ t, P.a0 = .token t → bal w' P.a0 p = bal w0 P.a0 p + d0 ∧ bal w' P.a0 s + d0 = bal w0 P.a0 s) ∧
      (∀ t, P.a1 = .token t → bal w' P.a1 p = bal w0 P.a1 p + d1 ∧ bal w' P.a1 s + d1 = bal w0 P.a1 s) ∧
      1 ≤ m ∧
      Spec.c05Pos (supply w0 P.lp) d0 d1
        (match P.a0 with | .native _ => bal w0 P.a0 p - d0 | .token _ => bal w0 P.a0 p)
        (match P.a1 with | .native _ => bal w0 P.a1 p - d1 | .token _ => bal w0 P.a1 p) m = true ∧
      supply w' P.lp = supply w0 P.lp + m ∧
      bal w' (.token P.lp) (rcv.getD s) = bal w0 (.token P.lp) (rcv.getD s) + m ∧
      (∀ b z, z ≠ s → z ≠ p → z ≠ rcv.getD s → bal w' b z = bal w0 b z) := by
  obtain ⟨d0, d1, D, hshare, X⟩ := provide_effect hsp hne hl0 hl1 h
  have hr := lpReserved_of_ne hS
  rw [hr] at hshare
  refine ⟨d0, d1, D.sel0, D.sel1, fun d e => ⟨D.sent0 d e, X.nat0 d e p⟩, fun d e => ⟨D.sent1 d e, X.nat1 d e p⟩,
    fun t e => ⟨(X.tok0 t e).2, (X.tok0 t e).1⟩, fun t e => ⟨(X.tok1 t e).2, (X.tok1 t e).1⟩,
    Nat.pos_of_ne_zero X.pos, C04.share_bounds_pos hS hshare, ?_, ?_, fun b z h1 h2 h3 => ?_⟩
  · rw [X.supply, if_pos rfl, hr]
    rfl
  · rw [X.lp, hr, ite_self, if_pos rfl]
    rfl
  · by_cases hb : b = .token P.lp
    · rw [hb, X.lp, hr, ite_self, if_neg h3]
      rfl
    · exact X.frame b z h1 h2 hb

theorem provide_effect_empty {w0 w' : World} {p : Nat} {P : PairSt} {s : Nat} {funds : List (Nat × Nat)}
    {as0 as1 : Asset} {am0 am1 : Nat} {tol rcv : Option Nat} {m : Nat}
    (hl0 : P.a0 ≠ .token P.lp) (hl1 : P.a1 ≠ .token P.lp) (hrl : rcv.getD s ≠ P.lp)
    (hS : supply w0 P.lp = 0)
    (h : pairProvide w0 p P s funds as0 am0 as1 am1 tol rcv = .ok (w', m)) :
    ∃ d0 d1,
      ((as0 = P.a0 ∧ d0 = am0) ∨ (as0 ≠ P.a0 ∧ as1 = P.a0 ∧ d0 = am1)) ∧
      ((as0 = P.a1 ∧ d1 = am0) ∨ (as0 ≠ P.a1 ∧ as1 = P.a1 ∧ d1 = am1)) ∧
      Spec.c05Empty s P.req d0 d1 (m + 1) = true ∧ 1 ≤ m ∧
      supply w' P.lp = m + 1 ∧
      bal w' (.token P.lp) P.lp = bal w0 (.token P.lp) P.lp + 1 ∧
      bal w' (.token P.lp) (rcv.getD s) = bal w0 (.token P.lp) (rcv.getD s) + m := by
  obtain ⟨d0, d1, w1, w2, M, sup, h1, h2, hm, D, hshare⟩ := provide_mints h
  rw [hS, lpReserved_of_eq rfl] at hshare M sup
  have kl : ∀ z, bal w2 (.token P.lp) z = bal w0 (.token P.lp) z := fun z => by
    rw [pull_other h2 (Ne.symm hl1), pull_other h1 (Ne.symm hl0)]
  refine ⟨d0, d1, D.sel0, D.sel1, (C04.share_bounds_empty hshare).1, Nat.pos_of_ne_zero hm, ?_, ?_, ?_⟩
  · rw [sup, if_pos rfl, hS, Nat.zero_add]
  · rw [M, kl, if_pos ⟨rfl, rfl⟩, if_neg (fun e => hrl e.2.symm)]
  · rw [M, kl, if_neg (fun e => hrl e.2), if_pos ⟨rfl, rfl⟩]
    rfl

/-! ### cw20 conservation is preserved by every operation

`TokSumOK w t` is `Bounded (bal w (.token t)) (supply w t)` (`Sums.lean`). -/

theorem tokSumOK_of {w' : World} {t : Nat} {S : Nat} (h : Bounded (bal w' (.token t)) S) (hs : supply w' t = S) :
    TokSumOK w' t := by
  subst hs
  exact h

theorem tokSumOK_holder {w : World} {t h : Nat} (hk : TokSumOK w t) : bal w (.token t) h ≤ supply w t :=
  Bounded.point hk h

theorem tokSumOK_two {w : World} {t x y : Nat} (hk : TokSumOK w t) (hxy : x ≠ y) :
    bal w (.token t) x + bal w (.token t) y ≤ supply w t := by
  have := hk [x, y] (List.nodup_cons.mpr ⟨by simpa using hxy, List.nodup_cons.mpr ⟨List.not_mem_nil, List.nodup_nil⟩⟩)
  simpa [sumBal] using this

/-- every operation keeps cw20 conservation, with no condition on the addresses a `CreatePair` is given: a token address
that is reused is overwritten with the empty token, for which the inequality is `0 ≤ 0` -/
theorem tokSumOK_exec {name : Asset → String} {w w' : World} {op : Op} {out : Out} {t : Nat}
    (hk : TokSumOK w t) (h : exec name w op = .ok (w', out)) : TokSumOK w' t := by
  have := exec_bounded h (.token t) 0 (by rw [Nat.zero_add]; exact hk)
  rwa [Nat.zero_add] at this

theorem tokSumOK_step {name : Asset → String} {w w' : World} {op : Op} {out : Out} {t : Nat}
    (hk : TokSumOK w t) (hf : FreshOK w op) (h : exec name w op = .ok (w', out)) : TokSumOK w' t :=
  tokSumOK_exec hk h

/-! ### C05W: the reserved unit -/

theorem owner_cases {op : Op} {z : Nat} (h : z ∈ ownersOf op) :
    (∃ t sp d a, op = .tokTransferFrom t sp z d a) ∨ (∃ t sp d a hk, op = .tokSendFrom t sp z d a hk) ∨
    (∃ t sp a, op = .tokBurnFrom t sp z a) := by
  cases op <;> simp only [ownersOf, List.mem_singleton, List.not_mem_nil] at h <;> subst h
  · exact .inl ⟨_, _, _, _, rfl⟩
  · exact .inr (.inl ⟨_, _, _, _, _, rfl⟩)
  · exact .inr (.inr ⟨_, _, _, rfl⟩)

/-- a successful operation that spends an allowance of `z` (a `…From` message by another account): `z` has granted one on
the operation's token `u`; and `u` is all that `z` can lose, unless it is one of the contracts the hook of a `SendFrom`
runs (a pair, the router) -/
theorem owner_effect {name : Asset → String} {w w' : World} {op : Op} {out : Out} {z : Nat}
    (hz : z ∈ ownersOf op) (h : exec name w op = .ok (w', out)) :
    ∃ u T sp al, w.tok u = some T ∧ T.allow z sp = some al ∧
      ((w.pair z).isNone → z ≠ w.router → ∀ t, t ≠ u → bal w (.token t) z ≤ bal w' (.token t) z) := by
  have h' := exec_ok h
  obtain ⟨u, sp, d, a, rfl⟩ | ⟨u, sp, d, a, hk, rfl⟩ | ⟨u, sp, a, rfl⟩ := owner_cases hz
  · obtain ⟨T, al, hT, hal, _⟩ := tokTransferFrom_ok h'.1
    exact ⟨u, T, sp, al, hT, hal, fun _ _ t ht =>
      Nat.le_of_eq (by rw [(tokTransferFrom_paid h'.1).bal, if_neg (fun e => ht (Asset.token.inj e))])⟩
  · obtain ⟨w1, h1, h2⟩ := tokSendFrom_iff.mp h'
    obtain ⟨T, al, hT, hal, _⟩ := tokTransferFrom_ok h1
    refine ⟨u, T, sp, al, hT, hal, fun hzp hzr t ht => ?_⟩
    -- the pull of `u` moves no `t`, and the hook runs only pairs and the router
    have hd : (w.pair d).isSome ∨ d = w.router := Or.elim h2 (fun h => .inl h.1) (fun h => .inr h.2.1)
    have g : Led (Flows.flowRoles (fun q => (w.pair q).isSome ∨ q = w.router) (fun _ => True)) w1 w' :=
      h2.led (tokTransferFrom_paid h1).kept.toSame ⟨hd, trivial⟩ trivial (fun _ _ => trivial) (fun _ q hq => ⟨.inl hq, trivial⟩)
        (fun _ _ _ _ => trivial)
    rw [← show bal w1 (.token t) z = bal w (.token t) z by
      rw [(tokTransferFrom_paid h1).bal, if_neg (fun e => ht (Asset.token.inj e))]]
    refine g.keep _ (fun e => e.elim (fun e => ?_) hzr)
    rw [Option.isNone_iff_eq_none.mp hzp] at e
    cases e
  · obtain ⟨T, al, hT, hal, _⟩ := tokBurnFrom_ok h'.1
    exact ⟨u, T, sp, al, hT, hal, fun _ _ t ht =>
      Nat.le_of_eq (by rw [(tokBurnFrom_burnt h'.1).bal, if_neg (fun e => ht (Asset.token.inj e.1))])⟩

/-- an account that is not the actor and none of the contracts an operation runs loses no cw20 token `t` on which it has
granted no allowance: nobody else can move its `t` -/
theorem token_kept {name : Asset → String} {w w' : World} {op : Op} {out : Out} {t z : Nat}
    (hzp : (w.pair z).isNone) (hzr : z ≠ w.router) (hna : ∀ T, w.tok t = some T → ∀ s, T.allow z s = none)
    (hact : actorOf op ≠ z) (hf : FreshOK w op) (h : exec name w op = .ok (w', out)) :
    bal w (.token t) z ≤ bal w' (.token t) z := by
  by_cases hown : z ∈ ownersOf op
  · obtain ⟨u, T, sp, al, hT, hal, hk⟩ := owner_effect hown h
    refine hk hzp hzr t fun e => ?_
    subst e
    rw [hna T hT sp] at hal
    cases hal
  · exact Flows.never_lose hf h _ z (Ne.symm hact) hown (Option.isNone_iff_eq_none.mp hzp) hzr

theorem reserved_unit_unspendable {name : Asset → String} {w w' : World} {op : Op} {out : Out} {p : Nat} {P : PairSt}
    (_hP : w.pair p = some P) (hlpp : (w.pair P.lp).isNone) (hlr : P.lp ≠ w.router)
    (hnoallow : ∀ T, w.tok P.lp = some T → ∀ s, T.allow P.lp s = none)
    (hact : actorOf op ≠ P.lp) (hf : FreshOK w op)
    (h : exec name w op = .ok (w', out)) :
    bal w (.token P.lp) P.lp ≤ bal w' (.token P.lp) P.lp :=
  token_kept hlpp hlr hnoallow hact hf h

end Halo.Liquidity
