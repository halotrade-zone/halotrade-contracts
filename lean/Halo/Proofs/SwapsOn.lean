/-
The vocabulary of the C03W statements (`Halo/Inv.lean`), by equations: `PairSt.other` (the ask asset of a swap is the
pair's other asset, `Swapped.ask_other`); the swaps `swapsOn` records, for the operations an external actor can get through
(one equation per operation shape, `hopTrace` hop by hop); `WindowedOn` for an operation that records a single swap.
-/
import Halo.Inv
import Halo.Proofs.Handlers

namespace Halo

namespace PairSt
variable {P : PairSt}

theorem other_a0 : P.other P.a0 = P.a1 := if_pos rfl

theorem other_a1 (h : P.a0 ≠ P.a1) : P.other P.a1 = P.a0 := if_neg (Ne.symm h)

theorem other_ne (h : P.a0 ≠ P.a1) (o : Asset) : P.other o ≠ o := by
  unfold other
  split
  next e => exact e ▸ Ne.symm h
  next e => exact Ne.symm e

theorem other_mem (o : Asset) : P.other o = P.a0 ∨ P.other o = P.a1 := by
  unfold other
  split
  · exact .inr rfl
  · exact .inl rfl

end PairSt

theorem Swapped.ask_other {w0 w' : World} {p : Nat} {P : PairSt} {funds : List (Nat × Nat)} {trader : Nat} {offer : Asset}
    {amt : Nat} {b ms to : Option Nat} {o : SwapOut} (k : Swapped w0 w' p P funds trader offer amt b ms to o) :
    o.ask = P.other offer :=
  k.ask_eq

section swapsOn
variable {w w0 : World} {t s sp o d p amt : Nat} {funds : List (Nat × Nat)} {P : PairSt} {offer : Asset}
  {b ms mn tt : Option Nat} {ops : List (Asset × Asset)}

theorem swapsOn_pairSwap (h0 : attach w s p funds = .ok w0) (hP : w.pair p = some P) :
    swapsOn w (.pair s p funds (.swap offer amt b ms tt)) =
      [(p, bal w0 offer p - amt, bal w0 (P.other offer) p, amt)] := by
  simp only [swapsOn, h0, hP]

theorem swapsOn_tokSend_swap {x : Nat} (hP : w.pair d = some P) :
    swapsOn w (.tokSend t s d amt (.swap offer x b ms tt)) = [(d, bal w offer d, bal w (P.other offer) d, amt)] := by
  simp only [swapsOn, hP]

theorem swapsOn_tokSendFrom_swap {x : Nat} (hP : w.pair d = some P) :
    swapsOn w (.tokSendFrom t sp o d amt (.swap offer x b ms tt)) =
      [(d, bal w offer d, bal w (P.other offer) d, amt)] := by
  simp only [swapsOn, hP]

theorem swapsOn_tokSend_route (hdn : (w.pair d).isNone) (hdr : d = w.router) (h1 : tokTransfer w t s d amt = .ok w0) :
    swapsOn w (.tokSend t s d amt (.routerOps ops mn tt)) = hopTrace w0 (tt.getD s) ops := by
  simp only [swapsOn, if_pos (And.intro hdn hdr), h1]

theorem swapsOn_tokSendFrom_route (hdn : (w.pair d).isNone) (hdr : d = w.router)
    (h1 : tokTransferFrom w t sp o d amt = .ok w0) :
    swapsOn w (.tokSendFrom t sp o d amt (.routerOps ops mn tt)) = hopTrace w0 (tt.getD sp) ops := by
  simp only [swapsOn, if_pos (And.intro hdn hdr), h1]

theorem swapsOn_swapOps (h0 : attach w s w.router funds = .ok w0) :
    swapsOn w (.router s funds (.swapOps ops mn tt)) = hopTrace w0 (tt.getD s) ops := by
  simp only [swapsOn, h0]

theorem swapsOn_routerReceive {from_ x : Nat} (h0 : attach w s w.router funds = .ok w0) :
    swapsOn w (.router s funds (.receive from_ x (.routerOps ops mn tt))) = hopTrace w0 (tt.getD from_) ops := by
  simp only [swapsOn, h0]

end swapsOn

theorem hopTrace_cons {w w1 : World} {rcv : Nat} {o a : Asset} {rest : List (Asset × Asset)} {R : Record} {Q : PairSt}
    (hR : facLookup w o a = some R) (hQ : w.pair R.pair = some Q)
    (h1 : routerHop w w.router o a (if rest.isEmpty then some rcv else none) = .ok w1) :
    hopTrace w rcv ((o, a) :: rest) =
      (R.pair, bal w o R.pair, bal w (Q.other o) R.pair, bal w o w.router) :: hopTrace w1 rcv rest := by
  simp only [hopTrace, hR, hQ, h1]

theorem WindowedOn.of_single {w : World} {op : Op} {p x y a : Nat} (h : swapsOn w op = [(p, x, y, a)])
    (hw : inWindow x y a = true) : WindowedOn w op p :=
  ⟨(p, x, y, a), by rw [h]; exact List.mem_singleton_self _, rfl, hw⟩

end Halo
