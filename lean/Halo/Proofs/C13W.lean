/-
C13W / C13X proofs — a whole route, any number of hops, at the level of `routerHops`.

The general statement is `C13X.route_effect_quoted`: under `RouteOK'` (every hop resolves to a pair over exactly its two
assets, the pairs are pairwise distinct, the router holds nothing of the route's assets but the input) and for any
recipient other than the router, what the hops do to every balance, with all amounts being the router's and the pairs'
own quotes in a world `v` that quotes the route as the world `w` in which it starts does (`SameQuotes v w`: the quotes read
only pair states and the pairs' balances, `qSimulation_congr`).  It goes hop by hop: `route_first_hop` says what the first
hop does (`C13.hop_full`) and that the hypotheses hold again for the remaining hops, whose pairs it leaves alone.
`route_effect` is the case `v = w`; at transaction level (`C13X.tx_effect`) `v` is the world before the input was credited
to the router.  The statements for a recipient that is no pair of the route (`C13W.RouteOK`: `route_passthrough`,
`route_passthrough_cyclic`) and for one that is (`route_rcv_pair`, `route_rcv_last_pair`) are read off it.
The names follow the property files (`C13W.*` for what `Props/C13W.lean` states or mentions, `C13X.*` for the rest), and
the two namespaces alternate here: `C13X.route_passthrough_cyclic` speaks of `C13W.RouteOK`, and `C13W.route_passthrough`
is read off it.
Core Lean only.
-/
import Halo.Proofs.C13

namespace Halo.C13W

/-! ### the simulation reads only pair states and pair balances -/

theorem balOf_congr {w w' : World} (ht : SameToks w w') {a : Asset} {z : Nat}
    (hb : bal w' a z = bal w a z) : balOf w' a z = balOf w a z := by
  cases a with
  | native d => exact congrArg Except.ok hb
  | token t => rw [balOf_token, balOf_token, ht t, hb]

theorem qSimulation_congr {w w' : World} {p : Nat} (hp : w'.pair p = w.pair p) (ht : SameToks w w')
    (hb : (w.pair p).isSome → ∀ b, bal w' b p = bal w b p) (o : Asset) (n : Nat) :
    qSimulation w' p o n = qSimulation w p o n := by
  unfold qSimulation
  rw [hp]
  cases hP : w.pair p with
  | none => rfl
  | some P =>
    have hb := hb (by rw [hP]; rfl)
    simp only [balOf_congr ht (hb P.a0), balOf_congr ht (hb P.a1)]

/-- the router's quote for a route is the same in two worlds that agree on the registry, on the pair states and on what
the pair contracts of the route's hops hold -/
theorem routerSimulate_congr {w w1 : World} (hs : Same w w1) (ht : SameToks w w1) (ops : List (Asset × Asset))
    (hfr : ∀ h ∈ ops, ∀ R, facLookup w h.1 h.2 = some R → (w.pair R.pair).isSome →
      ∀ b, bal w1 b R.pair = bal w b R.pair) (n : Nat) :
    routerSimulate w1 n ops = routerSimulate w n ops := by
  induction ops generalizing n with
  | nil => rfl
  | cons hd rest ih =>
    obtain ⟨o, a⟩ := hd
    simp only [routerSimulate]
    rw [facLookup_same hs]
    cases hR : facLookup w o a with
    | none => rfl
    | some R =>
      simp only [qSimulation_congr (congrFun hs.pair _) ht (hfr (o, a) List.mem_cons_self R hR) o n]
      cases qSimulation w R.pair o n with
      | error e => rfl
      | ok r => exact ih (fun h hh => hfr h (List.mem_cons_of_mem _ hh)) r.1

/-- `w` quotes every part of the route `ops` as `v` does: the contract states are the same, and the pair of every hop
holds what it holds in `v` -/
structure SameQuotes (v w : World) (ops : List (Asset × Asset)) : Prop where
  same : Same v w
  toks : SameToks v w
  pairs : ∀ h ∈ ops, ∀ R, facLookup v h.1 h.2 = some R → ∀ b, bal w b R.pair = bal v b R.pair

namespace SameQuotes
variable {v w w1 : World} {ops ops' : List (Asset × Asset)}

theorem refl (w : World) (ops : List (Asset × Asset)) : SameQuotes w w ops :=
  ⟨.refl w, .refl w, fun _ _ _ _ _ => rfl⟩

theorem mono (Q : SameQuotes v w ops) (h : ∀ x ∈ ops', x ∈ ops) : SameQuotes v w ops' :=
  ⟨Q.same, Q.toks, fun x hx => Q.pairs x (h x hx)⟩

theorem trans (Q : SameQuotes v w ops) (Q1 : SameQuotes w w1 ops) : SameQuotes v w1 ops :=
  ⟨Q.same.trans Q1.same, Q.toks.trans Q1.toks, fun x hx R hR b =>
    (Q1.pairs x hx R ((facLookup_same Q.same _ _).trans hR) b).trans (Q.pairs x hx R hR b)⟩

theorem lookup (Q : SameQuotes v w ops) {o a : Asset} {R : Record} (hR : facLookup w o a = some R) :
    facLookup v o a = some R :=
  (facLookup_same Q.same o a).symm.trans hR

theorem hop (Q : SameQuotes v w ops) {o a : Asset} (hm : (o, a) ∈ ops) {R : Record} (hR : facLookup v o a = some R)
    (x : Nat) : qSimulation w R.pair o x = qSimulation v R.pair o x :=
  qSimulation_congr (congrFun Q.same.pair _) Q.toks (fun _ => Q.pairs (o, a) hm R hR) o x

end SameQuotes

/-- the final ask asset of the route `(o, a) :: rest` -/
def lastAsk : Asset → List (Asset × Asset) → Asset
  | a, [] => a
  | _, h :: rest => lastAsk h.2 rest

theorem getLast?_lastAsk : ∀ (rest : List (Asset × Asset)) (o a : Asset),
    (((o, a) :: rest).getLast?.map (·.2)) = some (lastAsk a rest)
  | [], o, a => rfl
  | (o2, a2) :: rest, o, a => by
    rw [List.getLast?_cons_cons]
    exact getLast?_lastAsk rest o2 a2

/-- `b` is one of the assets of the route -/
def OnRoute (b : Asset) (ops : List (Asset × Asset)) : Prop := ∃ h ∈ ops, b = h.1 ∨ b = h.2

theorem onRoute_cons {b o a : Asset} {rest : List (Asset × Asset)} :
    OnRoute b ((o, a) :: rest) ↔ b = o ∨ b = a ∨ OnRoute b rest := by
  simp only [OnRoute, List.mem_cons, exists_eq_or_imp, or_assoc]

theorem onRoute_first {ops : List (Asset × Asset)} {first : Asset} (h : ops.head?.map (·.1) = some first) :
    OnRoute first ops := by
  obtain ⟨hd, h1, h2⟩ := Option.map_eq_some_iff.1 h
  exact ⟨hd, List.mem_of_head? h1, Or.inl h2.symm⟩

theorem onRoute_last {ops : List (Asset × Asset)} {target : Asset} (h : ops.getLast?.map (·.2) = some target) :
    OnRoute target ops := by
  obtain ⟨hl, h1, h2⟩ := Option.map_eq_some_iff.1 h
  exact ⟨hl, List.mem_of_getLast? h1, Or.inr h2.symm⟩

/-! ### the route hypotheses for a recipient that is no pair of the route -/

/-- the hypotheses under which a route is a pure pass-through, checked hop by hop against the state
in which the route starts: every hop resolves to a registered pair over exactly its two (distinct) assets,
the pairs are pairwise distinct, none is the router or the recipient, and the router holds nothing of any
asset of the route other than the first hop's offer asset -/
structure RouteOK (w : World) (rcv : Nat) (ops : List (Asset × Asset)) : Prop where
  resolves : ∀ h ∈ ops, ∃ R P, facLookup w h.1 h.2 = some R ∧ w.pair R.pair = some P ∧
      ((P.a0 = h.1 ∧ P.a1 = h.2) ∨ (P.a0 = h.2 ∧ P.a1 = h.1)) ∧ h.1 ≠ h.2 ∧ R.pair ≠ w.router ∧ R.pair ≠ rcv
  distinctPairs : (ops.map fun h => (facLookup w h.1 h.2).map (·.pair)).Nodup
  routerEmpty : ∀ h ∈ ops, ∀ b, (b = h.1 ∨ b = h.2) → b ≠ (ops.head?.map (·.1)).getD b → bal w b w.router = 0
  rcvNotRouter : rcv ≠ w.router
  routerNoPair : (w.pair w.router).isNone

end Halo.C13W

namespace Halo.C13X
open Halo.C02 Halo.C13 Halo.C13W

/-! ### the route hypotheses, with no condition on the recipient -/

/-- `z` is not the pair of any hop of the route -/
def NotRoutePair (w : World) (ops : List (Asset × Asset)) (z : Nat) : Prop :=
  ∀ h ∈ ops, ∀ R, facLookup w h.1 h.2 = some R → R.pair ≠ z

/-- `C13W.RouteOK` without its conditions on the recipient (and without `routerNoPair`, which no proof uses): every
hop resolves to a registered pair over exactly its two (distinct) assets, the pairs are pairwise distinct, none
is the router, and the router holds nothing of any asset of the route other than the first hop's offer asset
(`b ≠ (ops.head?.map (·.1)).getD b` says that the route has a first hop and `b` is not its offer asset: for an empty
route `getD b` is `b` itself) -/
structure RouteOK' (w : World) (ops : List (Asset × Asset)) : Prop where
  resolves : ∀ h ∈ ops, ∃ R P, facLookup w h.1 h.2 = some R ∧ w.pair R.pair = some P ∧
      ((P.a0 = h.1 ∧ P.a1 = h.2) ∨ (P.a0 = h.2 ∧ P.a1 = h.1)) ∧ h.1 ≠ h.2 ∧ R.pair ≠ w.router
  distinctPairs : (ops.map fun h => (facLookup w h.1 h.2).map (·.pair)).Nodup
  routerEmpty : ∀ h ∈ ops, ∀ b, (b = h.1 ∨ b = h.2) → b ≠ (ops.head?.map (·.1)).getD b → bal w b w.router = 0

theorem RouteOK'.head {w : World} {o a : Asset} {rest : List (Asset × Asset)}
    (hok : RouteOK' w ((o, a) :: rest)) :
    ∃ R P, facLookup w o a = some R ∧ w.pair R.pair = some P ∧
      ((P.a0 = o ∧ P.a1 = a) ∨ (P.a0 = a ∧ P.a1 = o)) ∧ o ≠ a ∧ R.pair ≠ w.router :=
  hok.resolves (o, a) List.mem_cons_self

theorem RouteOK'.empty {w : World} {o a : Asset} {rest : List (Asset × Asset)}
    (hok : RouteOK' w ((o, a) :: rest)) {h : Asset × Asset} (hm : h ∈ (o, a) :: rest) {b : Asset}
    (hb : b = h.1 ∨ b = h.2) (hbo : b ≠ o) : bal w b w.router = 0 :=
  hok.routerEmpty h hm b hb hbo

theorem RouteOK'.pair_ne {w : World} {o a : Asset} {rest : List (Asset × Asset)}
    (hok : RouteOK' w ((o, a) :: rest)) {R : Record} (hR : facLookup w o a = some R)
    {h : Asset × Asset} (hm : h ∈ rest) {R' : Record} (hR' : facLookup w h.1 h.2 = some R') :
    R'.pair ≠ R.pair := by
  have hnd := hok.distinctPairs
  rw [List.map_cons, List.nodup_cons] at hnd
  intro e
  apply hnd.1
  rw [List.mem_map]
  refine ⟨h, hm, ?_⟩
  simp only [hR, hR', Option.map_some, e]

/-- the hypotheses pass to a part of the route in a world with the same contract states, once the router is known to
hold nothing but that part's input there -/
theorem RouteOK'.sub {w w1 : World} {ops ops' : List (Asset × Asset)} (hok : RouteOK' w ops) (hs : Same w w1)
    (hsub : ops'.Sublist ops)
    (he : ∀ h ∈ ops', ∀ b, (b = h.1 ∨ b = h.2) → b ≠ (ops'.head?.map (·.1)).getD b → bal w1 b w.router = 0) :
    RouteOK' w1 ops' where
  resolves h hm := by
    obtain ⟨R, P, e1, e2, e3, e4, e5⟩ := hok.resolves h (hsub.subset hm)
    exact ⟨R, P, (facLookup_same hs _ _).trans e1, (congrFun hs.pair _).trans e2, e3, e4, hs.router ▸ e5⟩
  distinctPairs := by
    have hc : (fun h : Asset × Asset => (facLookup w1 h.1 h.2).map (·.pair)) =
        (fun h : Asset × Asset => (facLookup w h.1 h.2).map (·.pair)) := by
      funext h; rw [facLookup_same hs]
    rw [hc]
    exact hok.distinctPairs.sublist (hsub.map _)
  routerEmpty := hs.router ▸ he

theorem RouteOK'.not_router {w : World} {ops : List (Asset × Asset)} (hok : RouteOK' w ops) :
    NotRoutePair w ops w.router := by
  intro hp hm R hR
  obtain ⟨R', _, f1, _, _, _, f5⟩ := hok.resolves hp hm
  cases hR.symm.trans f1
  exact f5

theorem RouteOK'.not_pair {w : World} {ops : List (Asset × Asset)} (hok : RouteOK' w ops) {z : Nat}
    (hz : (w.pair z).isNone) : NotRoutePair w ops z := by
  intro hp hm R hR
  obtain ⟨R', _, f1, f2, _⟩ := hok.resolves hp hm
  cases hR.symm.trans f1
  rintro rfl
  rw [Option.isNone_iff_eq_none.1 hz] at f2
  cases f2

/-- the first (non-final) hop of a successful route: its output is the next hop's input, and the route hypotheses hold
again for the remaining hops -/
theorem route_first_hop {w w1 w' : World} {rcv : Nat} {o a o2 a2 : Asset} {rest : List (Asset × Asset)}
    (hok : RouteOK' w ((o, a) :: (o2, a2) :: rest))
    (h1 : routerHop w w.router o a none = .ok w1)
    (h2 : routerHops w1 rcv ((o2, a2) :: rest) = .ok w') :
    ∃ R n s k, facLookup w o a = some R ∧ R.pair ≠ w.router ∧
      qSimulation w R.pair o (bal w o w.router) = .ok (n, s, k) ∧
      o2 = a ∧ bal w1 a w.router = n ∧ bal w1 o w.router = 0 ∧
      (∀ c, bal w1 c R.pair + (if c = a then n else 0) = bal w c R.pair + (if c = o then bal w o w.router else 0)) ∧
      (∀ c z, z ≠ w.router → z ≠ R.pair → bal w1 c z = bal w c z) ∧
      (∀ c, c ≠ o → c ≠ a → ∀ z, bal w1 c z = bal w c z) ∧
      Same w w1 ∧ SameToks w w1 ∧ RouteOK' w1 ((o2, a2) :: rest) := by
  obtain ⟨R, P, hR, hP, hPa, hoa, hpr⟩ := hok.head
  obtain ⟨n, s, k, _, hsim, hadd, hs, ht⟩ := hop_full (tgt := none) hR hP hPa hoa hpr h1
  obtain ⟨hz, Er, Ep, Eo, hoff⟩ := hopEq_cases (rc := w.router) hoa (Ne.symm hpr) hadd
  have hpay : bal w1 a w.router = n := by
    rw [Er a (Ne.symm hoa), if_pos ⟨rfl, rfl⟩, hok.empty List.mem_cons_self (Or.inr rfl) (Ne.symm hoa)]
    exact Nat.zero_add n
  have hro : ∀ c, c ≠ o → c ≠ a → bal w1 c w.router = bal w c w.router := fun c h1 h2 => by
    rw [Er c h1, if_neg (fun e => h2 e.2)]
    rfl
  -- the next hop finds a non-zero balance of its offer asset, which must be the asset just received
  have ho2 : o2 = a := by
    obtain ⟨w2, hh, _⟩ := routerHops_cons h2
    obtain ⟨_, _, _, _, hnz, _⟩ := hop_spends_whole_balance hh
    rw [hs.router] at hnz
    apply Classical.byContradiction
    intro hne
    apply hnz
    by_cases hoo : o2 = o
    · rw [hoo]; exact hz
    · rw [hro o2 hoo hne]
      exact hok.empty (List.mem_cons_of_mem _ List.mem_cons_self) (Or.inl rfl) hoo
  refine ⟨R, n, s, k, hR, hpr, hsim, ho2, hpay, hz, fun c => ?_, fun c z hzr hzp => ?_, hoff,
    hs, ht, hok.sub hs (List.sublist_cons_self _ _) fun h hm b hb hbo => ?_⟩
  · have e := Ep c
    rw [if_neg (fun e : R.pair = w.router ∧ c = a => hpr e.1)] at e
    exact e
  · have e := Eo c z hzr hzp
    rw [if_neg (fun e : z = w.router ∧ c = a => hzr e.1)] at e
    exact e
  · by_cases hbo1 : b = o
    · rw [hbo1]; exact hz
    · rw [hro b hbo1 (ho2 ▸ hbo)]
      exact hok.empty (List.mem_cons_of_mem _ hm) hb hbo1

/-- the complete effect of a route, for any recipient other than the router: the quote, the router's balances,
the assets off the route, every account that is neither the router nor a pair of the route, and every pair of
the route (hop `pre ++ [(o', a')]` receives the quote `x` of the prefix and pays its own quote `y`) — the final
payment `n` is added to whichever account the recipient is.  All quotes are those of a world `v` that quotes the route
as `w` does (`w` itself, or the world before a credit to the router): after a hop the remaining hops are still quoted as
in `v`, because the pairs are distinct, so `v` stays fixed through the induction. -/
theorem route_effect_quoted {v : World} {rcv : Nat} : ∀ (rest : List (Asset × Asset)) (o a : Asset) (w w' : World),
    SameQuotes v w ((o, a) :: rest) → RouteOK' w ((o, a) :: rest) → rcv ≠ w.router →
    routerHops w rcv ((o, a) :: rest) = .ok w' →
    ∃ n, routerSimulate v (bal w o w.router) ((o, a) :: rest) = .ok n ∧
      (∀ b, OnRoute b ((o, a) :: rest) → bal w' b w.router = 0) ∧
      (∀ b, ¬ OnRoute b ((o, a) :: rest) → ∀ z, bal w' b z = bal w b z) ∧
      (∀ z, z ≠ w.router → NotRoutePair v ((o, a) :: rest) z → ∀ b,
        bal w' b z = bal w b z + (if z = rcv ∧ b = lastAsk a rest then n else 0)) ∧
      (∀ pre o' a' post, (o, a) :: rest = pre ++ (o', a') :: post →
        ∀ R x y s k, facLookup v o' a' = some R → routerSimulate v (bal w o w.router) pre = .ok x →
          qSimulation v R.pair o' x = .ok (y, s, k) →
          ∀ b, bal w' b R.pair + (if b = a' then y else 0) =
            bal w b R.pair + (if b = o' then x else 0) +
              (if R.pair = rcv ∧ b = lastAsk a rest then n else 0)) := by
  intro rest
  induction rest with
  | nil =>
    intro o a w w' Q hok hrr h
    obtain ⟨w1, h1, h2⟩ := routerHops_cons h
    cases h2
    obtain ⟨R, P, hR, hP, hPa, hoa, hpr⟩ := hok.head
    obtain ⟨n, s, k, _, hsim, hadd, hs, ht⟩ := hop_full (tgt := some rcv) hR hP hPa hoa hpr h1
    obtain ⟨hz, Er, Ep, Eo, hoff⟩ := hopEq_cases (rc := rcv) hoa (Ne.symm hpr) hadd
    have hRv := Q.lookup hR
    have hsimv := (Q.hop List.mem_cons_self hRv _).symm.trans hsim
    refine ⟨n, ?_, ?_, fun b hb z => ?_, fun z hzr hzp b => ?_, ?_⟩
    · rw [router_sim_cons hRv hsimv]; rfl
    · intro b hb
      by_cases hbo : b = o
      · rw [hbo]; exact hz
      · obtain ⟨hp, hm, hb⟩ := hb
        rw [Er b hbo, if_neg (fun e => hrr e.1.symm)]
        exact hok.empty hm hb hbo
    · exact hoff b (fun e => hb (onRoute_cons.2 (.inl e))) (fun e => hb (onRoute_cons.2 (.inr (.inl e)))) z
    · exact Eo b z hzr (Ne.symm (hzp (o, a) List.mem_cons_self R hRv))
    · intro pre o' a' post hsplit R' x y s' k' hR' hpre hq b
      cases pre with
      | nil =>
        cases hsplit
        cases hpre
        cases hRv.symm.trans hR'
        cases hsimv.symm.trans hq
        exact Ep b
      | cons hd pre' =>
        injection hsplit with _ e2
        cases pre' <;> cases e2
  | cons hd rest ih =>
    obtain ⟨o2, a2⟩ := hd
    intro o a w w' Q hok hrr h
    obtain ⟨w1, h1, h2⟩ := routerHops_cons h
    obtain ⟨R, n1, s1, k1, hR, hpr, hsim, ho2, hbal, hz, hpo, hoth, hoff, hs, ht, hok1⟩ :=
      route_first_hop hok h1 h2
    subst ho2
    have hRv := Q.lookup hR
    have hsimv := (Q.hop List.mem_cons_self hRv _).symm.trans hsim
    -- the pairs of the remaining hops hold in `w1` what they held in `w`
    have hpairs : ∀ hp ∈ (o2, a2) :: rest, ∀ R', facLookup w hp.1 hp.2 = some R' →
        ∀ b, bal w1 b R'.pair = bal w b R'.pair := fun hp hm R' hR' b =>
      hoth b R'.pair (hok.not_router hp (List.mem_cons_of_mem _ hm) R' hR') (hok.pair_ne hR hm hR')
    obtain ⟨n, isim, izero, ioff, ifr, ipairs⟩ := ih o2 a2 w1 w'
      ((Q.mono fun _ => List.mem_cons_of_mem _).trans ⟨hs, ht, hpairs⟩) hok1 (by rw [hs.router]; exact hrr) h2
    rw [hs.router] at isim izero ifr ipairs
    rw [hbal] at isim ipairs
    refine ⟨n, ?_, ?_, fun b hb z => ?_, fun z hzr hzp b => ?_, ?_⟩
    · rw [router_sim_cons hRv hsimv]; exact isim
    · intro b hb
      by_cases hon : OnRoute b ((o2, a2) :: rest)
      · exact izero b hon
      · -- the only asset of the route that no later hop touches is the first offer
        obtain rfl : b = o := (onRoute_cons.1 hb).resolve_right
          fun e => hon (e.elim (fun e => onRoute_cons.2 (.inl e)) id)
        rw [ioff b hon w.router]
        exact hz
    · have hb := mt onRoute_cons.2 hb
      rw [ioff b (fun e => hb (.inr (.inr e))) z]
      exact hoff b (fun e => hb (.inl e)) (fun e => hb (.inr (.inl e))) z
    · rw [ifr z hzr (fun hp hm => hzp hp (List.mem_cons_of_mem _ hm)) b,
        hoth b z hzr (Ne.symm (hzp (o, o2) List.mem_cons_self R hRv))]
      rfl
    · intro pre o' a' post hsplit R' x y s' k' hR' hpre hq b
      cases pre with
      | nil =>
        cases hsplit
        cases hpre
        cases hRv.symm.trans hR'
        cases hsimv.symm.trans hq
        -- the first hop's pair takes no part in the remaining hops
        have hnp : NotRoutePair v ((o2, a2) :: rest) R.pair := fun hp hm R' hR' =>
          hok.pair_ne hR hm ((facLookup_same Q.same _ _).trans hR')
        rw [ifr R.pair hpr hnp b, Nat.add_right_comm, hpo b]
        rfl
      | cons hd pre' =>
        injection hsplit with e1 hsplit
        subst e1
        rw [router_sim_cons hRv hsimv] at hpre
        have e := ipairs pre' o' a' post hsplit R' x y s' k' hR' hpre hq b
        rwa [hpairs (o', a') (hsplit ▸ List.mem_append_right _ List.mem_cons_self) R'
          ((facLookup_same Q.same _ _).trans hR') b] at e

theorem route_effect {rcv : Nat} : ∀ (rest : List (Asset × Asset)) (o a : Asset) (w w' : World),
    RouteOK' w ((o, a) :: rest) → rcv ≠ w.router → routerHops w rcv ((o, a) :: rest) = .ok w' →
    ∃ n, routerSimulate w (bal w o w.router) ((o, a) :: rest) = .ok n ∧
      (∀ b, OnRoute b ((o, a) :: rest) → bal w' b w.router = 0) ∧
      (∀ b, ¬ OnRoute b ((o, a) :: rest) → ∀ z, bal w' b z = bal w b z) ∧
      (∀ z, z ≠ w.router → NotRoutePair w ((o, a) :: rest) z → ∀ b,
        bal w' b z = bal w b z + (if z = rcv ∧ b = lastAsk a rest then n else 0)) ∧
      (∀ pre o' a' post, (o, a) :: rest = pre ++ (o', a') :: post →
        ∀ R x y s k, facLookup w o' a' = some R → routerSimulate w (bal w o w.router) pre = .ok x →
          qSimulation w R.pair o' x = .ok (y, s, k) →
          ∀ b, bal w' b R.pair + (if b = a' then y else 0) =
            bal w b R.pair + (if b = o' then x else 0) +
              (if R.pair = rcv ∧ b = lastAsk a rest then n else 0)) :=
  fun rest o a w w' => route_effect_quoted rest o a w w' (.refl w _)

theorem routerSimulate_cons_ok {w : World} {amt q : Nat} {o a : Asset} {rest : List (Asset × Asset)}
    (h : routerSimulate w amt ((o, a) :: rest) = .ok q) :
    ∃ R y s k, facLookup w o a = some R ∧ qSimulation w R.pair o amt = .ok (y, s, k) ∧
      routerSimulate w y rest = .ok q := by
  simp only [routerSimulate] at h
  cases hR : facLookup w o a with
  | none => rw [hR] at h; cases h
  | some R =>
    rw [hR] at h
    cases hq : qSimulation w R.pair o amt with
    | error e => simp only [hq] at h; cases h
    | ok r =>
      obtain ⟨y, s, k⟩ := r
      simp only [hq] at h
      exact ⟨R, y, s, k, rfl, hq, h⟩

theorem routerSimulate_split {w : World} (pre : List (Asset × Asset)) {o a : Asset}
    {post : List (Asset × Asset)} {amt q : Nat} (h : routerSimulate w amt (pre ++ (o, a) :: post) = .ok q) :
    ∃ R x y s k, facLookup w o a = some R ∧ routerSimulate w amt pre = .ok x ∧
      qSimulation w R.pair o x = .ok (y, s, k) ∧ routerSimulate w y post = .ok q := by
  induction pre generalizing amt with
  | nil =>
    obtain ⟨R, y, s, k, hR, hq, h⟩ := routerSimulate_cons_ok h
    exact ⟨R, amt, y, s, k, hR, rfl, hq, h⟩
  | cons hd pre' ih =>
    obtain ⟨R1, y1, s1, k1, hR1, hq1, h⟩ := routerSimulate_cons_ok h
    obtain ⟨R, x, y, s, k, e1, e2, e3, e4⟩ := ih h
    exact ⟨R, x, y, s, k, e1, (router_sim_cons hR1 hq1).trans e2, e3, e4⟩

theorem route_effect_top {v w w' : World} {rcv amt : Nat} {first : Asset} {ops : List (Asset × Asset)}
    (Q : SameQuotes v w ops) (hok : RouteOK' w ops) (hrr : rcv ≠ w.router) (hfirst : ops.head?.map (·.1) = some first)
    (hamt : bal w first w.router = amt) (h : routerHops w rcv ops = .ok w') :
    ∃ target q, ops.getLast?.map (·.2) = some target ∧ routerSimulateTop v amt ops = .ok q ∧
      (∀ b, OnRoute b ops → bal w' b w.router = 0) ∧
      (∀ b, ¬ OnRoute b ops → ∀ z, bal w' b z = bal w b z) ∧
      (∀ z, z ≠ w.router → NotRoutePair v ops z → ∀ b,
        bal w' b z = bal w b z + (if z = rcv ∧ b = target then q else 0)) ∧
      (∀ pre o a post, ops = pre ++ (o, a) :: post →
        ∃ R x y s k, facLookup v o a = some R ∧ routerSimulate v amt pre = .ok x ∧
          qSimulation v R.pair o x = .ok (y, s, k) ∧ routerSimulate v y post = .ok q ∧
          ∀ b, bal w' b R.pair + (if b = a then y else 0) =
            bal w b R.pair + (if b = o then x else 0) + (if R.pair = rcv ∧ b = target then q else 0)) := by
  cases ops with
  | nil => cases hfirst
  | cons hd rest =>
    obtain ⟨o0, a0⟩ := hd
    cases hfirst
    subst hamt
    obtain ⟨n, hsim, hzero, hoff, hfr, hpairs⟩ := route_effect_quoted rest o0 a0 w w' Q hok hrr h
    refine ⟨lastAsk a0 rest, n, getLast?_lastAsk rest o0 a0, (routerSimulateTop_cons ..).trans hsim,
      hzero, hoff, hfr, fun pre o a post hsplit => ?_⟩
    rw [hsplit] at hsim
    obtain ⟨R, x, y, s, k, e1, e2, e3, e4⟩ := routerSimulate_split pre hsim
    exact ⟨R, x, y, s, k, e1, e2, e3, e4, hpairs pre o a post hsplit R x y s k e1 e2 e3⟩

theorem route_rcv_pair {w w' : World} {rcv amt : Nat} {first : Asset} {ops pre post : List (Asset × Asset)}
    {o a : Asset} {R : Record}
    (hok : RouteOK' w ops) (hrr : rcv ≠ w.router) (hfirst : ops.head?.map (·.1) = some first)
    (hamt : bal w first w.router = amt) (h : routerHops w rcv ops = .ok w')
    (hsplit : ops = pre ++ (o, a) :: post) (hR : facLookup w o a = some R) (hrcv : R.pair = rcv) :
    ∃ target q x y s k, ops.getLast?.map (·.2) = some target ∧ routerSimulateTop w amt ops = .ok q ∧
      routerSimulate w amt pre = .ok x ∧ qSimulation w rcv o x = .ok (y, s, k) ∧
      routerSimulate w y post = .ok q ∧
      ∀ b, bal w' b rcv + (if b = a then y else 0) =
        bal w b rcv + (if b = o then x else 0) + (if b = target then q else 0) := by
  obtain ⟨target, q, e1, e2, _, _, _, hp⟩ := route_effect_top (.refl w ops) hok hrr hfirst hamt h
  obtain ⟨R', x, y, s, k, f1, f2, f3, f4, f5⟩ := hp pre o a post hsplit
  cases hR.symm.trans f1
  subst hrcv
  refine ⟨target, q, x, y, s, k, e1, e2, f2, f3, f4, fun b => ?_⟩
  have e := f5 b
  simp only [true_and] at e
  exact e

theorem route_rcv_last_pair {w w' : World} {rcv amt : Nat} {first : Asset} {ops pre : List (Asset × Asset)}
    {o a : Asset} {R : Record}
    (hok : RouteOK' w ops) (hrr : rcv ≠ w.router) (hfirst : ops.head?.map (·.1) = some first)
    (hamt : bal w first w.router = amt) (h : routerHops w rcv ops = .ok w')
    (hsplit : ops = pre ++ [(o, a)]) (hR : facLookup w o a = some R) (hrcv : R.pair = rcv) :
    ∃ q x, routerSimulateTop w amt ops = .ok q ∧ routerSimulate w amt pre = .ok x ∧
      bal w' a rcv = bal w a rcv ∧ bal w' o rcv = bal w o rcv + x ∧
      ∀ b, b ≠ o → b ≠ a → bal w' b rcv = bal w b rcv := by
  obtain ⟨target, q, x, y, s, k, e1, e2, e3, e4, e5, e6⟩ :=
    route_rcv_pair hok hrr hfirst hamt h hsplit hR hrcv
  cases e5
  rw [hsplit, List.getLast?_concat] at e1
  cases e1
  have hoa : o ≠ a := by
    obtain ⟨_, _, _, _, _, hne, _⟩ := hok.resolves (o, a) (hsplit ▸ List.mem_append_right _ List.mem_cons_self)
    exact hne
  refine ⟨q, x, e2, e3, ?_, ?_, fun b h1 h2 => ?_⟩
  · have e := e6 a
    simp only [if_pos, if_neg (Ne.symm hoa)] at e
    exact Nat.add_right_cancel e
  · have e := e6 o
    simp only [if_pos, if_neg hoa] at e
    exact e
  · have e := e6 b
    simp only [if_neg h1, if_neg h2] at e
    exact e

/-! ### a recipient that is no pair of the route -/

theorem _root_.Halo.C13W.RouteOK.weaken {w : World} {rcv : Nat} {ops : List (Asset × Asset)} (hok : RouteOK w rcv ops) :
    RouteOK' w ops ∧ rcv ≠ w.router ∧ NotRoutePair w ops rcv := by
  refine ⟨⟨fun h hm => ?_, hok.distinctPairs, hok.routerEmpty⟩, hok.rcvNotRouter, fun h hm R hR => ?_⟩
  · obtain ⟨R, P, e1, e2, e3, e4, e5, _⟩ := hok.resolves h hm
    exact ⟨R, P, e1, e2, e3, e4, e5⟩
  · obtain ⟨R', P, e1, _, _, _, _, e6⟩ := hok.resolves h hm
    cases hR.symm.trans e1
    exact e6

theorem route_passthrough_cyclic {w w' : World} {rcv amt : Nat} {first : Asset} {ops : List (Asset × Asset)}
    (hok : RouteOK w rcv ops) (hfirst : ops.head?.map (·.1) = some first)
    (hamt : bal w first w.router = amt) (h : routerHops w rcv ops = .ok w') :
    ∃ target q, ops.getLast?.map (·.2) = some target ∧ routerSimulateTop w amt ops = .ok q ∧
      bal w' target rcv = bal w target rcv + q ∧
      (∀ b, OnRoute b ops → bal w' b w.router = 0) ∧
      (∀ b, b ≠ target → bal w' b rcv = bal w b rcv) ∧
      (∀ b, ¬ OnRoute b ops → ∀ z, bal w' b z = bal w b z) := by
  obtain ⟨hok', hrr, hnp⟩ := hok.weaken
  obtain ⟨target, q, e1, e2, hzero, hoff, hfr, _⟩ := route_effect_top (.refl w ops) hok' hrr hfirst hamt h
  refine ⟨target, q, e1, e2, ?_, hzero, fun b hb => ?_, hoff⟩
  · rw [hfr rcv hrr hnp target, if_pos ⟨rfl, rfl⟩]
  · rw [hfr rcv hrr hnp b, if_neg (fun e => hb e.2)]
    rfl

end Halo.C13X

namespace Halo.C13W
open Halo.C13X

theorem route_passthrough {w w' : World} {rcv : Nat} {ops : List (Asset × Asset)}
    (hok : RouteOK w rcv ops) (hne : ops ≠ [])
    (h : routerHops w rcv ops = .ok w') :
    ∃ target n, (ops.getLast?.map (·.2)) = some target ∧
      routerSimulateTop w (bal w ((ops.head?.map (·.1)).getD target) w.router) ops = .ok n ∧
      (∀ first, ops.head?.map (·.1) = some first → first ≠ target →
        bal w' target rcv = bal w target rcv + n) ∧
      (∀ hp ∈ ops, ∀ b, (b = hp.1 ∨ b = hp.2) → b ≠ target → bal w' b w.router = 0) ∧
      bal w' target w.router = bal w target w.router -
        (if ops.head?.map (·.1) = some target then bal w target w.router else 0) ∧
      (∀ b, b ≠ target → bal w' b rcv = bal w b rcv) := by
  cases ops with
  | nil => exact absurd rfl hne
  | cons h0 rest =>
    obtain ⟨o, a⟩ := h0
    obtain ⟨target, n, e1, e2, hpay, hzero, hrcv, _⟩ := route_passthrough_cyclic hok rfl rfl h
    have hon := onRoute_last e1
    refine ⟨target, n, e1, e2, fun _ _ _ => hpay, fun hp hm b hb _ => hzero b ⟨hp, hm, hb⟩, ?_, hrcv⟩
    rw [hzero _ hon]
    show 0 = bal w target w.router - (if some o = some target then bal w target w.router else 0)
    by_cases e : o = target
    · rw [if_pos (congrArg some e), Nat.sub_self]
    · obtain ⟨hl, hlm, hle⟩ := hon
      rw [if_neg (fun hh => e (Option.some.inj hh)), Nat.sub_zero]
      exact (hok.routerEmpty hl hlm target hle (Ne.symm e)).symm

end Halo.C13W
