/-
C16 at world level — the registry invariant `RegOK` (Halo/Inv.lean) is preserved by every operation (by `CreatePair`;
by `AddNativeTokenDecimals`, whose effect `C17.lean` computes; by everything else, which changes pair states at most,
`cfgStep_pairOnly`); its consequences for lookups; liveness is never revoked; no operation changes the environment
(`Reach.EnvEq`: raw identifiers, factory address, validity of address strings).

Preservation needs nothing of the raw identifiers: `regOK_createPair'`, `regOK_addDecimals'`, `regOK_step'` are the
theorems, and their unprimed namesakes, which the property files state, take a `RawOK` hypothesis they do not use.
-/
import Halo.Proofs.C19
import Halo.Proofs.C17
import Halo.Proofs.Trace
import Halo.Proofs.Runs

namespace Halo.Created
variable {w w' : World} {s : Nat} {a0 a1 : Asset} {req : Requirements} {comm lpDec : Option Nat} {np nl d0 d1 : Nat}

theorem pair_new (k : Created w w' s a0 a1 req comm lpDec np nl d0 d1) :
    w'.pair np = some (newPair w a0 a1 req comm nl d0 d1) := by
  rw [k.world]
  exact if_pos rfl

theorem tok_new (k : Created w w' s a0 a1 req comm lpDec np nl d0 d1) : w'.tok nl = some (newToken lpDec np) := by
  rw [k.world]
  exact if_pos rfl

/-- the commission of the created pair — the one given, or the default 0.3 % — is at most 100 % -/
theorem comm_le_one (k : Created w w' s a0 a1 req comm lpDec np nl d0 d1) : comm.getD defaultCommission ≤ E := by
  cases comm with
  | none => decide
  | some c => exact k.comm_le c rfl

end Halo.Created

namespace Halo.RegOKP
open Halo.C19

theorem live_native (w : World) (d : Nat) : Live w (.native d) = ((w.denoms d).isSome = true) := rfl
theorem live_token (w : World) (t : Nat) : Live w (.token t) = ((w.tok t).isSome = true) := rfl

theorem live_iff_decimals {w : World} {a : Asset} : Live w a ↔ ∃ d, assetDecimals w a = .ok d := by
  cases a with
  | native d =>
    simp only [live_native, assetDecimals]
    cases w.denoms d <;> simp
  | token t =>
    simp only [live_token, assetDecimals]
    cases w.tok t <;> simp

theorem live_of_decimals {w : World} {a : Asset} {d : Nat} (h : assetDecimals w a = .ok d) : Live w a :=
  live_iff_decimals.mpr ⟨d, h⟩

theorem live_congr {w w' : World} (hd : w'.denoms = w.denoms) (ht : SameToks w w') (a : Asset) :
    Live w' a ↔ Live w a := by
  cases a with
  | native d => simp only [live_native, hd]
  | token t => simp only [live_token, ht t]

/-- `RegOK` from its other six fields: `denomsKnown` is `live` read at the native assets -/
theorem _root_.Halo.RegOK.of_live {w : World} (sorted : w.registry.Pairwise (fun e f => e.1 < f.1))
    (keyed : ∀ e ∈ w.registry, e.1 = pairKey (w.rawId e.2.a0) (w.rawId e.2.a1))
    (matched : ∀ e ∈ w.registry, recMatches w e.2)
    (distinctPairs : w.registry.Pairwise (fun e f => e.2.pair ≠ f.2.pair))
    (distinctAssets : ∀ e ∈ w.registry, e.2.a0 ≠ e.2.a1)
    (live : ∀ e ∈ w.registry, Live w e.2.a0 ∧ Live w e.2.a1) : RegOK w :=
  ⟨sorted, keyed, matched, distinctPairs, distinctAssets,
    fun e he d hd => show Live w (.native d) from hd.elim (· ▸ (live e he).1) (· ▸ (live e he).2), live⟩

theorem isSome_ite_some {α} {c : Prop} [Decidable c] {v : α} {o : Option α} :
    (if c then some v else o).isSome = true ↔ c ∨ o.isSome = true := by
  split <;> simp [*]

theorem regOK_of_eq {w w' : World} (hreg : w'.registry = w.registry) (hraw : w'.rawId = w.rawId)
    (hfac : w'.facAddr = w.facAddr)
    (hpair : ∀ e ∈ w.registry, w'.pair e.2.pair = w.pair e.2.pair)
    (hlive : ∀ a, Live w a → Live w' a) (hr : RegOK w) : RegOK w' :=
  .of_live
    (sorted := hreg ▸ hr.sorted)
    (keyed := by rw [hreg, hraw]; exact hr.keyed)
    (matched := by
      rw [hreg]; intro e he
      obtain ⟨P, hP, h⟩ := hr.matched e he
      exact ⟨P, (hpair e he).trans hP, by rw [hfac]; exact h⟩)
    (distinctPairs := hreg ▸ hr.distinctPairs)
    (distinctAssets := hreg ▸ hr.distinctAssets)
    (live := by rw [hreg]; exact fun e he => ⟨hlive _ (hr.live e he).1, hlive _ (hr.live e he).2⟩)

theorem regOK_same {w w' : World} (hs : Same w w') (ht : SameToks w w') (hr : RegOK w) : RegOK w' :=
  regOK_of_eq hs.registry hs.rawId hs.facAddr (fun _ _ => by rw [hs.pair])
    (fun a h => (live_congr hs.denoms ht a).mpr h) hr

/-- `RawOK` depends on the raw identifiers and on which assets are live: it carries over to a world with the same
identifiers in which no further asset is live -/
theorem rawOK_of_eq {w w' : World} (h : w'.rawId = w.rawId) (hl : ∀ a, Live w' a → Live w a) (hr : RawOK w) :
    RawOK w' :=
  ⟨by rw [h]; exact fun a b ha hb => hr.inj a b (hl a ha) (hl b hb), by rw [h]; exact hr.short⟩

theorem lookup_comm (w : World) (a b : Asset) : facLookup w a b = facLookup w b a := by
  unfold facLookup
  rw [pairKey_comm]

theorem lookup_both_orders {w : World} (hr : RegOK w) {e : Bytes × Record} (he : e ∈ w.registry) :
    facLookup w e.2.a0 e.2.a1 = some e.2 ∧ facLookup w e.2.a1 e.2.a0 = some e.2 ∧ recMatches w e.2 := by
  have h1 : facLookup w e.2.a0 e.2.a1 = some e.2 := by
    unfold facLookup
    rw [← hr.keyed e he]
    exact regLookup_of_mem hr.sorted he
  exact ⟨h1, (lookup_comm ..).trans h1, hr.matched e he⟩

theorem lookup_by_raw {w : World} {a b a' b' : Asset} (ha : w.rawId a = w.rawId a') (hb : w.rawId b = w.rawId b') :
    facLookup w a b = facLookup w a' b' := by
  unfold facLookup; rw [ha, hb]

/-- fine form of `lookup_sound`: the record's assets carry the queried raw identifiers (in one of the two orders), and
each queried asset that is live IS the record's asset in that position -/
theorem lookup_sound_fine {w : World} (hr : RegOK w) (hraw : RawOK w) {a b : Asset} {R : Record}
    (h : facLookup w a b = some R) :
    (w.rawId R.a0 = w.rawId a ∧ w.rawId R.a1 = w.rawId b ∧ (Live w a → R.a0 = a) ∧ (Live w b → R.a1 = b)) ∨
    (w.rawId R.a0 = w.rawId b ∧ w.rawId R.a1 = w.rawId a ∧ (Live w b → R.a0 = b) ∧ (Live w a → R.a1 = a)) := by
  have hm := mem_of_regLookup h
  have hk := hr.keyed _ hm
  obtain ⟨l0, l1⟩ := hr.live _ hm
  rcases pairKey_inj (hraw.short _) (hraw.short _) (hraw.short _) (hraw.short _) hk with ⟨h1, h2⟩ | ⟨h1, h2⟩
  · exact .inl ⟨h1.symm, h2.symm, fun la => hraw.inj _ _ l0 la h1.symm, fun lb => hraw.inj _ _ l1 lb h2.symm⟩
  · exact .inr ⟨h2.symm, h1.symm, fun lb => hraw.inj _ _ l0 lb h2.symm, fun la => hraw.inj _ _ l1 la h1.symm⟩

theorem lookup_sound {w : World} (hr : RegOK w) (hraw : RawOK w) {a b : Asset} {R : Record}
    (h : facLookup w a b = some R) :
    ((w.rawId R.a0 = w.rawId a ∧ w.rawId R.a1 = w.rawId b) ∨ (w.rawId R.a0 = w.rawId b ∧ w.rawId R.a1 = w.rawId a)) ∧
    (Live w a → Live w b → (R.a0 = a ∧ R.a1 = b) ∨ (R.a0 = b ∧ R.a1 = a)) := by
  rcases lookup_sound_fine hr hraw h with ⟨h1, h2, f1, f2⟩ | ⟨h1, h2, f1, f2⟩
  · exact ⟨.inl ⟨h1, h2⟩, fun la lb => .inl ⟨f1 la, f2 lb⟩⟩
  · exact ⟨.inr ⟨h1, h2⟩, fun la lb => .inr ⟨f1 lb, f2 la⟩⟩

theorem lookup_pair_assets {w : World} (hr : RegOK w) (hraw : RawOK w) {a b : Asset} {R : Record}
    (h : facLookup w a b = some R) (la : Live w a) (lb : Live w b) :
    ∃ P, w.pair R.pair = some P ∧ ((P.a0 = a ∧ P.a1 = b) ∨ (P.a0 = b ∧ P.a1 = a)) ∧ a ≠ b := by
  have hm := mem_of_regLookup h
  obtain ⟨P, hP, e0, e1, _⟩ := hr.matched _ hm
  have hd := hr.distinctAssets _ hm
  refine ⟨P, hP, ?_⟩
  rw [e0, e1]
  rcases (lookup_sound hr hraw h).2 la lb with ⟨f0, f1⟩ | ⟨f0, f1⟩
  · exact ⟨.inl ⟨f0, f1⟩, fun e => hd (by rw [f0, f1]; exact e)⟩
  · exact ⟨.inr ⟨f0, f1⟩, fun e => hd (by rw [f0, f1]; exact e.symm)⟩

theorem lookup_distinct {w : World} (hr : RegOK w) (hraw : RawOK w) {a b c d : Asset} {R : Record}
    (h1 : facLookup w a b = some R) (h2 : facLookup w c d = some R) :
    ((w.rawId a = w.rawId c ∧ w.rawId b = w.rawId d) ∨ (w.rawId a = w.rawId d ∧ w.rawId b = w.rawId c)) ∧
    (Live w a → Live w b → Live w c → Live w d → (a = c ∧ b = d) ∨ (a = d ∧ b = c)) := by
  have k1 := hr.keyed _ (mem_of_regLookup h1)
  have k2 := hr.keyed _ (mem_of_regLookup h2)
  have hk : pairKey (w.rawId a) (w.rawId b) = pairKey (w.rawId c) (w.rawId d) := k1.trans k2.symm
  rcases pairKey_inj (hraw.short _) (hraw.short _) (hraw.short _) (hraw.short _) hk with ⟨e1, e2⟩ | ⟨e1, e2⟩
  · exact ⟨.inl ⟨e1, e2⟩, fun la lb lc ld => .inl ⟨hraw.inj _ _ la lc e1, hraw.inj _ _ lb ld e2⟩⟩
  · exact ⟨.inr ⟨e1, e2⟩, fun la lb lc ld => .inr ⟨hraw.inj _ _ la ld e1, hraw.inj _ _ lb lc e2⟩⟩

theorem create_dup_fails {w w' : World} {s : Nat} {a0 a1 : Asset} {req : Requirements} {comm lpDec : Option Nat} {np nl : Nat}
    (h : facCreatePair w s a0 a1 req comm lpDec np nl = .ok w') :
    a0 ≠ a1 ∧ facLookup w a0 a1 = none ∧ facLookup w a1 a0 = none ∧
    assetDecimals w a0 = .ok ((w'.pair np).map (·.d0) |>.getD 0) ∧
    assetDecimals w a1 = .ok ((w'.pair np).map (·.d1) |>.getD 0) ∧
    (match comm with | some c => c ≤ E | none => True) := by
  obtain ⟨d0, d1, k⟩ := facCreatePair_ok h
  rw [k.pair_new]
  refine ⟨k.ne, k.unregistered, (lookup_comm ..).trans k.unregistered, k.dec0, k.dec1, ?_⟩
  cases comm with
  | none => trivial
  | some c => exact k.comm_le c rfl

/-- creation revokes no liveness: the LP token is instantiated at `nl` (over whatever was there) -/
theorem live_createPair {w w' : World} {s : Nat} {a0 a1 : Asset} {req : Requirements} {comm lpDec : Option Nat}
    {np nl : Nat} (h : facCreatePair w s a0 a1 req comm lpDec np nl = .ok w') (a : Asset) :
    (Live w a → Live w' a) ∧ (Live w' a → Live w a ∨ a = .token nl) := by
  obtain ⟨d0, d1, rfl⟩ := facCreatePair_world h
  cases a with
  | native d => exact ⟨fun h => h, fun h => .inl h⟩
  | token t =>
    simp only [live_token, isSome_ite_some]
    exact ⟨.inr, fun h => h.symm.imp id (congrArg _)⟩

theorem regOK_createPair' {w w' : World} {s : Nat} {a0 a1 : Asset} {req : Requirements} {comm lpDec : Option Nat} {np nl : Nat}
    (hr : RegOK w) (hfresh : w.pair np = none)
    (h : facCreatePair w s a0 a1 req comm lpDec np nl = .ok w') : RegOK w' := by
  have hmono := fun a => (live_createPair h a).1
  obtain ⟨d0, d1, k⟩ := facCreatePair_ok h
  obtain rfl := k.world
  have hold : ∀ e ∈ w.registry, e.2.pair ≠ np := by
    intro e he hp
    obtain ⟨P, hP, _⟩ := hr.matched e he
    rw [hp, hfresh] at hP
    cases hP
  apply RegOK.of_live
  · exact regInsert_sorted _ _ _ hr.sorted
  · exact forall_mem_regInsert rfl hr.keyed
  · refine forall_mem_regInsert ?_ fun e he => ?_
    · exact ⟨newPair w a0 a1 req comm nl d0 d1, if_pos rfl, rfl, rfl, rfl, rfl, rfl, rfl, rfl, rfl⟩
    · obtain ⟨P, hP, hrest⟩ := hr.matched e he
      exact ⟨P, (if_neg (hold e he)).trans hP, hrest⟩
  · exact regInsert_pairwise (fun a b : Record => a.pair ≠ b.pair) _ _ _ hr.distinctPairs
      (fun e he hp => hold e he hp.symm) hold
  · exact forall_mem_regInsert k.ne hr.distinctAssets
  · exact forall_mem_regInsert ⟨hmono _ (live_of_decimals k.dec0), hmono _ (live_of_decimals k.dec1)⟩
      fun e he => ⟨hmono _ (hr.live e he).1, hmono _ (hr.live e he).2⟩

theorem regOK_createPair {w w' : World} {s : Nat} {a0 a1 : Asset} {req : Requirements} {comm lpDec : Option Nat} {np nl : Nat}
    (hr : RegOK w) (_hraw : RawOK w) (hfresh : w.pair np = none)
    (h : facCreatePair w s a0 a1 req comm lpDec np nl = .ok w') : RegOK w' :=
  regOK_createPair' hr hfresh h

/-- re-registration revokes no liveness: the cw20 contracts are untouched, `d` is (or stays) registered -/
theorem live_addDecimals {w w' : World} {s d k : Nat} (h : facAddDecimals w s d k = .ok w')
    (a : Asset) : (Live w a → Live w' a) ∧ (Live w' a → Live w a ∨ a = .native d) := by
  obtain ⟨_, _, _, _, _, rfl⟩ := facAddDecimals_world h
  cases a with
  | token t => simp only [live_token]; exact ⟨fun h => h, fun h => .inl h⟩
  | native x =>
    simp only [live_native, isSome_ite_some]
    exact ⟨.inr, fun h => h.symm.imp id (congrArg _)⟩

theorem regOK_addDecimals' {w w' : World} {s d k : Nat} (hr : RegOK w)
    (h : facAddDecimals w s d k = .ok w') : RegOK w' := by
  have hmono := fun a => (live_addDecimals h a).1
  have F := addDecimals_char hr h
  have hreg := F.registry
  apply RegOK.of_live
  · rw [hreg]; exact sorted_of_keys_eq (map_fst_updEntry d k _) hr.sorted
  · rw [hreg, F.rawId]; exact List.forall_mem_map.2 hr.keyed
  · rw [hreg]; exact List.forall_mem_map.2 fun _ => recMatches_after hr h
  · rw [hreg, List.pairwise_map]; exact hr.distinctPairs
  · rw [hreg]; exact List.forall_mem_map.2 hr.distinctAssets
  · rw [hreg]; exact List.forall_mem_map.2 fun e he => ⟨hmono _ (hr.live e he).1, hmono _ (hr.live e he).2⟩

theorem regOK_addDecimals {w w' : World} {s d k : Nat} (hr : RegOK w) (_hraw : RawOK w)
    (h : facAddDecimals w s d k = .ok w') : RegOK w' :=
  regOK_addDecimals' hr h

/-- the asset an operation can make live: the LP token instantiated for a created pair, the denom of an
`AddNativeTokenDecimals` -/
def NewLive (op : Op) (a : Asset) : Prop :=
  (∃ s f a0 a1 req c ld np nl, op = .factory s f (.createPair a0 a1 req c ld np nl) ∧ a = .token nl) ∨
  (∃ s f d k, op = .factory s f (.addDecimals d k) ∧ a = .native d)

theorem newLive_createPair {s : Nat} {f : List (Nat × Nat)} {a0 a1 : Asset} {req : Requirements} {c ld : Option Nat}
    {np nl : Nat} {b : Asset} : NewLive (.factory s f (.createPair a0 a1 req c ld np nl)) b ↔ b = .token nl := by
  constructor
  · rintro (⟨_, _, _, _, _, _, _, _, _, e, rfl⟩ | ⟨_, _, _, _, e, _⟩) <;> cases e
    rfl
  · rintro rfl
    exact .inl ⟨_, _, _, _, _, _, _, _, _, rfl, rfl⟩

theorem newLive_addDecimals {s : Nat} {f : List (Nat × Nat)} {d k : Nat} {b : Asset} :
    NewLive (.factory s f (.addDecimals d k)) b ↔ b = .native d := by
  constructor
  · rintro (⟨_, _, _, _, _, _, _, _, _, e, _⟩ | ⟨_, _, _, _, e, rfl⟩) <;> cases e
    rfl
  · rintro rfl
    exact .inr ⟨_, _, _, _, rfl, rfl⟩

theorem newLive_unique {op : Op} {a b : Asset} (ha : NewLive op a) (hb : NewLive op b) : a = b := by
  rcases ha with ⟨s, f, a0, a1, req, c, ld, np, nl, e, rfl⟩ | ⟨s, f, d, k, e, rfl⟩ <;>
    rcases hb with ⟨s', f', a0', a1', req', c', ld', np', nl', e', rfl⟩ | ⟨s', f', d', k', e', rfl⟩ <;>
    (rw [e] at e'; cases e'; try rfl)

/-- a configuration step other than `AddNativeTokenDecimals` and `CreatePair` changes pair states at most, and the
state of a pair only when it is a message (a decimals update) to that pair from the pair's `factory` -/
theorem cfgStep_pairOnly {w w' : World} {op : Op} (h : cfgStep w op = .ok w') :
    (PairOnly w w' ∧
      ∀ q, w'.pair q = w.pair q ∨ ∃ s f m P, op = .pair s q f m ∧ w.pair q = some P ∧ s = P.factory) ∨
    (∃ s f d k, op = .factory s f (.addDecimals d k) ∧ facAddDecimals w s d k = .ok w') ∨
    (∃ s f a0 a1 req c ld np nl, op = .factory s f (.createPair a0 a1 req c ld np nl) ∧
      facCreatePair w s a0 a1 req c ld np nl = .ok w') := by
  rcases cfgStep_ok h with rfl | ⟨s, p, f, d, da, db, rfl, hx⟩ | e | ⟨s, f, o, tc, pc, _, hx⟩ | e
  · exact .inl ⟨.refl _, fun _ => .inl rfl⟩
  · obtain ⟨P, hP, hs, rfl⟩ := pairUpdateDecimals_ok hx
    refine .inl ⟨⟨rfl, rfl, rfl, rfl, rfl, rfl, rfl⟩, fun q => ?_⟩
    by_cases hq : q = p
    · subst hq; exact .inr ⟨s, f, _, P, rfl, hP, hs⟩
    · exact .inl (if_neg hq)
  · exact .inr (.inl e)
  · obtain ⟨_, _, rfl⟩ := facUpdateConfig_ok hx
    exact .inl ⟨⟨rfl, rfl, rfl, rfl, rfl, rfl, rfl⟩, fun _ => .inl rfl⟩
  · exact .inr (.inr e)

theorem live_pairOnly {w w' : World} (h : PairOnly w w') (a : Asset) : Live w' a ↔ Live w a :=
  live_congr h.denoms (sameToks_of_tok_eq h.tok) a

theorem live_cfgStep {w w' : World} {op : Op} (h : cfgStep w op = .ok w') (a : Asset) :
    (Live w a → Live w' a) ∧ (Live w' a → Live w a ∨ NewLive op a) := by
  rcases cfgStep_pairOnly h with ⟨po, _⟩ | ⟨s, f, d, k, rfl, hx⟩ | ⟨s, f, a0, a1, req, c, ld, np, nl, rfl, hx⟩
  · exact ⟨(live_pairOnly po a).mpr, fun h => .inl ((live_pairOnly po a).mp h)⟩
  · obtain ⟨c1, c2⟩ := live_addDecimals hx a
    exact ⟨c1, fun h => (c2 h).imp id newLive_addDecimals.2⟩
  · obtain ⟨c1, c2⟩ := live_createPair hx a
    exact ⟨c1, fun h => (c2 h).imp id newLive_createPair.2⟩

theorem live_exec_new {name : Asset → String} {w w' : World} {op : Op} {out : Out}
    (h : exec name w op = .ok (w', out)) (a : Asset) :
    (Live w a → Live w' a) ∧ (Live w' a → Live w a ∨ NewLive op a) := by
  obtain ⟨w0, hl, hc⟩ := exec_split h
  have l0 := live_congr hl.kept.denoms hl.kept.toks a
  obtain ⟨c1, c2⟩ := live_cfgStep hc a
  exact ⟨fun h => c1 (l0.mpr h), fun h => (c2 h).imp l0.mp id⟩

theorem live_exec {name : Asset → String} {w w' : World} {op : Op} {out : Out}
    (h : exec name w op = .ok (w', out)) {a : Asset} (hl : Live w a) : Live w' a :=
  (live_exec_new h a).1 hl

theorem live_run {name : Asset → String} (ops : List Op) (w : World) {a : Asset} (hl : Live w a) :
    Live (run name w ops) a :=
  Reach.run_preserves (I := fun v => Live v a) (fun _ _ _ _ h => live_exec h) ops w hl

/-- a pair's decimals update from anybody but the factory can only reach an unregistered pair (a registered one has
the factory as its `factory`), which no record describes -/
theorem regOK_step' {name : Asset → String} {w w' : World} {op : Op} {out : Out}
    (hr : RegOK w)
    (hactor : ∀ s p f m, op = .pair s p f m → s ≠ w.facAddr)
    (hfresh : ∀ s f a0 a1 req c ld np nl, op = .factory s f (.createPair a0 a1 req c ld np nl) → w.pair np = none)
    (h : exec name w op = .ok (w', out)) : RegOK w' := by
  obtain ⟨w0, hl, hc⟩ := exec_split h
  have hs0 := hl.kept.toSame
  have hr0 := regOK_same hs0 hl.kept.toks hr
  rcases cfgStep_pairOnly hc with ⟨po, hp⟩ | ⟨s, f, d, k, _, hx⟩ | ⟨s, f, a0, a1, req, c, ld, np, nl, rfl, hx⟩
  · refine regOK_of_eq po.registry po.rawId po.facAddr (fun e he => (hp e.2.pair).resolve_right ?_)
      (fun a => (live_pairOnly po a).mpr) hr0
    rintro ⟨s, f, m, P, rfl, hP, hsP⟩
    obtain ⟨P', hP', _, _, _, _, _, _, _, hf⟩ := hr0.matched e he
    rw [hP] at hP'; injection hP' with hP'; subst hP'
    exact hactor s _ f _ rfl (by rw [hsP, hf, hs0.facAddr])
  · exact regOK_addDecimals' hr0 hx
  · exact regOK_createPair' hr0 (by rw [hs0.pair]; exact hfresh _ _ _ _ _ _ _ _ _ rfl) hx

theorem regOK_step {name : Asset → String} {w w' : World} {op : Op} {out : Out}
    (hr : RegOK w) (_hraw : RawOK w)
    (hactor : ∀ s p f m, op = .pair s p f m → s ≠ w.facAddr)
    (hfresh : ∀ s f a0 a1 req c ld np nl, op = .factory s f (.createPair a0 a1 req c ld np nl) → w.pair np = none)
    (h : exec name w op = .ok (w', out)) : RegOK w' :=
  regOK_step' hr hactor hfresh h

theorem create_lp_token {w w' : World} {s : Nat} {a0 a1 : Asset} {req : Requirements} {comm lpDec : Option Nat}
    {np nl : Nat} (h : facCreatePair w s a0 a1 req comm lpDec np nl = .ok w') :
    ∃ T, w'.tok nl = some T ∧ T.decimals = lpDec.getD 6 ∧ T.supply = 0 ∧ T.minter = some np ∧
      assetDecimals w' (.token nl) = .ok (lpDec.getD 6) := by
  obtain ⟨d0, d1, k⟩ := facCreatePair_ok h
  refine ⟨newToken lpDec np, k.tok_new, rfl, rfl, rfl, ?_⟩
  simp only [assetDecimals, k.tok_new]

end Halo.RegOKP

/-! ### the environment: no operation changes `rawId`, `facAddr` or `badAddr` -/

namespace Halo.Reach

/-- the raw asset identifiers, the factory address and the validity of address strings are the same -/
structure EnvEq (w w' : World) : Prop where
  rawId : w'.rawId = w.rawId
  facAddr : w'.facAddr = w.facAddr
  badAddr : w'.badAddr = w.badAddr

theorem EnvEq.refl (w : World) : EnvEq w w := ⟨rfl, rfl, rfl⟩
theorem EnvEq.trans {a b c : World} (h1 : EnvEq a b) (h2 : EnvEq b c) : EnvEq a c :=
  ⟨h2.rawId.trans h1.rawId, h2.facAddr.trans h1.facAddr, h2.badAddr.trans h1.badAddr⟩

theorem envEq_exec {name : Asset → String} {w w' : World} {op : Op} {out : Out}
    (h : exec name w op = .ok (w', out)) : EnvEq w w' := by
  obtain ⟨w0, hl, hc⟩ := exec_split h
  have hs := hl.kept.toSame
  refine .trans ⟨hs.rawId, hs.facAddr, hs.badAddr⟩ ?_
  rcases cfgStep_cases hc with hd | ⟨s, f, a0, a1, req, c, ld, np, nl, P, reg, _, rfl⟩
  · exact ⟨hd.rawId, hd.facAddr, hd.badAddr⟩
  · exact ⟨rfl, rfl, rfl⟩

theorem envEq_run {name : Asset → String} (ops : List Op) (w : World) : EnvEq w (run name w ops) :=
  run_preserves (I := fun v => EnvEq w v) (fun _ _ _ _ hE hi => hi.trans (envEq_exec hE)) ops w (.refl w)

end Halo.Reach

namespace Halo.RegOKP

theorem badAddr_exec {name : Asset → String} {w w' : World} {op : Op} {out : Out}
    (h : exec name w op = .ok (w', out)) : w'.badAddr = w.badAddr :=
  (Reach.envEq_exec h).badAddr

theorem badAddr_run {name : Asset → String} (ops : List Op) (w : World) : (run name w ops).badAddr = w.badAddr :=
  (Reach.envEq_run ops w).badAddr

end Halo.RegOKP
