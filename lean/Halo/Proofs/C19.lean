/-
C19 / C16 — proofs about the registry model (`Halo/Registry.lean`): page size bounds, the meaning of
the exclusive range start, completeness of the page-by-page walk, sortedness of insertion, and the
registry key (`pairKey`): symmetry, injectivity, and the "no low extension" property.

`Mathlib.Data.List.Lex` makes the lexicographic `<` on `Bytes` (core's `List.Lex`) a linear order: the `lt_trans`,
`lt_asymm`, `lt_trichotomy`, `not_lt` below are at that instance.  `Mathlib.Tactic.Linarith` is imported for no tactic and
no lemma: with the `Monoid` structure of `ℕ` in scope the bounds `2 ^ 32` in the statement of `pairKey_inj` elaborate
through it (through core's `instPowNat` without): dropping the import changes that statement.
-/
import Halo.Registry
import Mathlib.Data.List.Lex
import Mathlib.Tactic.Linarith

namespace Halo.C19

theorem page_le {α} (reg : List (Bytes × α)) (c : Option Bytes) (lim : Option Nat) :
    (readPairs reg c lim).length ≤ pageSize lim :=
  List.length_take_le _ _

theorem page_le_30 {α} (reg : List (Bytes × α)) (c : Option Bytes) (lim : Option Nat) :
    (readPairs reg c lim).length ≤ 30 :=
  (page_le reg c lim).trans (Nat.min_le_right _ _)

theorem page_default_10 {α} (reg : List (Bytes × α)) (c : Option Bytes) :
    (readPairs reg c none).length ≤ 10 :=
  page_le reg c none

theorem page_le_limit {α} (reg : List (Bytes × α)) (c : Option Bytes) (k : Nat) :
    (readPairs reg c (some k)).length ≤ k :=
  (page_le reg c (some k)).trans (Nat.min_le_left _ _)

theorem pageSize_pos (lim : Option Nat) (hl : lim ≠ some 0) : 0 < pageSize lim := by
  cases lim with
  | none => decide
  | some k => exact Nat.lt_min.2 ⟨Nat.pos_of_ne_zero fun h => hl (h ▸ rfl), by decide⟩

theorem lt_rangeStart (c : Bytes) : c < rangeStart c := by
  unfold rangeStart
  induction c with
  | nil => decide
  | cons a t ih => exact List.Lex.cons ih

theorem rangeStart_lt_iff {c k : Bytes} (h : NoLowExt1 c k) : rangeStart c < k ↔ c < k := by
  refine ⟨lt_trans (lt_rangeStart c), fun hk => ?_⟩
  unfold rangeStart
  induction c generalizing k with
  | nil =>
    -- `k` is non-empty, does not start with 0 and is not `[1]`
    rcases k with _ | ⟨b, t⟩
    · exact absurd hk (lt_irrefl _)
    · rcases Nat.lt_trichotomy b 1 with hb | rfl | hb
      · obtain rfl : b = 0 := by omega
        exact absurd rfl (h.1 t)
      · rcases t with _ | ⟨b', t'⟩
        · exact absurd rfl h.2
        · exact List.Lex.cons List.Lex.nil
      · exact List.Lex.rel hb
  | cons a t ih =>
    cases hk with
    | rel hab => exact List.Lex.rel hab
    | cons htu =>
      exact List.Lex.cons
        (ih ⟨fun s hs => h.1 s (by rw [hs]; rfl), fun hs => h.2 (by rw [hs]; rfl)⟩ htu)

theorem after_split {α} {reg pre post : List (Bytes × α)} {c : Bytes × α} (hreg : reg = pre ++ c :: post)
    (hs : reg.Pairwise (fun e f => e.1 < f.1)) (hn : NoLowExt reg) :
    afterCursor reg (some c.1) = post := by
  subst hreg
  have key : ∀ k ∈ pre ++ c :: post, decide (rangeStart c.1 < k.1) = decide (c.1 < k.1) :=
    fun k hk => decide_eq_decide.2 (rangeStart_lt_iff (hn c (by simp) k hk))
  obtain ⟨_, hcp, hpre⟩ := List.pairwise_append.1 hs
  rw [List.pairwise_cons] at hcp
  show List.filter _ _ = post
  -- the filter for `c.1 < ·` drops `pre` and `c` and keeps `post`
  rw [List.filter_congr key, List.filter_append, List.filter_cons,
    List.filter_eq_nil_iff.2 fun k hk => by simpa using le_of_lt (hpre k hk c List.mem_cons_self),
    if_neg (by simp), List.filter_eq_self.2 fun k hk => by simpa using hcp.1 k hk]
  rfl

/-- from any cursor behind which a final segment `s` of the registry lies, the walk returns that segment -/
theorem walk_from {α} {reg : List (Bytes × α)} {lim : Option Nat} (hl : lim ≠ some 0)
    (hs : reg.Pairwise (fun e f => e.1 < f.1)) (hno : NoLowExt reg) :
    ∀ (f : Nat) (c : Option Bytes) (pre s : List (Bytes × α)), reg = pre ++ s → afterCursor reg c = s →
      s.length + 1 ≤ f → walkFuel reg lim f c = s := by
  intro f
  induction f with
  | zero => intro _ _ _ _ _ hf; cases hf
  | succ f ih =>
    intro c pre s hreg hc hf
    rw [walkFuel, readPairs, hc]
    cases hlast : (s.take (pageSize lim)).getLast? with
    | none =>
      -- an empty page of positive size: nothing is left
      have := pageSize_pos lim hl
      rw [List.getLast?_eq_none_iff, List.take_eq_nil_iff] at hlast
      exact (hlast.resolve_left (by omega)).symm
    | some e =>
      -- the page ends in `e`: the next cursor leaves exactly what the page did not take
      obtain ⟨ini, hini⟩ := List.getLast?_eq_some_iff.1 hlast
      have hs' : s = ini ++ e :: s.drop (pageSize lim) := by
        conv_lhs => rw [← List.take_append_drop (pageSize lim) s, hini, List.append_assoc]
        rfl
      have hreg' : reg = (pre ++ ini) ++ e :: s.drop (pageSize lim) := by
        rw [List.append_assoc, ← hs', hreg]
      have hlen := congrArg List.length hs'
      rw [List.length_append, List.length_cons] at hlen
      dsimp only
      rw [ih (some e.1) (pre ++ ini ++ [e]) _ (by rw [hreg']; simp) (after_split hreg' hs hno) (by omega),
        List.take_append_drop]

theorem walk_fuel_irrelevant {α} (reg : List (Bytes × α)) (lim : Option Nat) (hl : lim ≠ some 0)
    (hs : reg.Pairwise (fun e f => e.1 < f.1)) (hno : NoLowExt reg) (f : Nat) (hf : reg.length + 1 ≤ f) :
    walkFuel reg lim f none = reg :=
  walk_from hl hs hno f none [] reg rfl rfl hf

theorem walk_complete {α} (reg : List (Bytes × α)) (lim : Option Nat) (hl : lim ≠ some 0)
    (hs : reg.Pairwise (fun e f => e.1 < f.1)) (hno : NoLowExt reg) :
    walk reg lim = reg :=
  walk_fuel_irrelevant reg lim hl hs hno (reg.length + 1) (le_refl _)

theorem mem_regInsert {α} (k : Bytes) (v : α) (reg : List (Bytes × α)) :
    ∀ e ∈ regInsert k v reg, e = (k, v) ∨ e ∈ reg := by
  intro e he
  fun_induction regInsert k v reg with
  | case1 => exact Or.inl (List.mem_singleton.1 he)
  | case2 => exact List.mem_cons.1 he
  | case3 => exact (List.mem_cons.1 he).imp_right (List.mem_cons_of_mem _)
  | case4 k' v' rest _ _ ih =>
    rcases List.mem_cons.1 he with rfl | h
    · exact Or.inr List.mem_cons_self
    · exact (ih h).imp_right (List.mem_cons_of_mem _)

theorem forall_mem_regInsert {α} {P : Bytes × α → Prop} {k : Bytes} {v : α} {reg : List (Bytes × α)}
    (hv : P (k, v)) (hreg : ∀ e ∈ reg, P e) : ∀ e ∈ regInsert k v reg, P e :=
  fun e he => (mem_regInsert k v reg e he).elim (· ▸ hv) (hreg e)

theorem regInsert_sorted {α} (k : Bytes) (v : α) (reg : List (Bytes × α))
    (hs : reg.Pairwise (fun e f => e.1 < f.1)) : (regInsert k v reg).Pairwise (fun e f => e.1 < f.1) := by
  fun_induction regInsert k v reg with
  | case1 => exact List.pairwise_singleton _ _
  | case2 k' v' rest h =>
    have hhd := (List.pairwise_cons.1 hs).1
    exact List.pairwise_cons.2
      ⟨fun e he => (List.mem_cons.1 he).elim (· ▸ h) fun h' => lt_trans h (hhd e h'), hs⟩
  | case3 => exact List.pairwise_cons.2 (List.pairwise_cons.1 hs)
  | case4 k' v' rest h1 h2 ih =>
    obtain ⟨hhd, hrest⟩ := List.pairwise_cons.1 hs
    have hlt : k' < k := lt_of_le_of_ne (not_lt.1 h1) (Ne.symm h2)
    exact List.pairwise_cons.2
      ⟨fun e he => (mem_regInsert k v rest e he).elim (· ▸ hlt) (hhd e), ih hrest⟩

theorem regLookup_cons {α} (k : Bytes) (e : Bytes × α) (reg : List (Bytes × α)) :
    regLookup k (e :: reg) = if e.1 = k then some e.2 else regLookup k reg := by
  unfold regLookup
  by_cases h : e.1 = k <;> simp [h]

theorem regLookup_map {α β} (f : α → β) (k : Bytes) (reg : List (Bytes × α)) :
    regLookup k (reg.map fun e => (e.1, f e.2)) = (regLookup k reg).map f := by
  unfold regLookup
  rw [List.find?_map, Option.map_map, Option.map_map]
  rfl

theorem regLookup_regInsert {α} (k k' : Bytes) (v : α) (reg : List (Bytes × α)) :
    regLookup k' (regInsert k v reg) = if k = k' then some v else regLookup k' reg := by
  fun_induction regInsert k v reg with
  | case1 | case2 => exact regLookup_cons ..
  | case3 v' rest _ =>
    rw [regLookup_cons, regLookup_cons]
    exact ite_congr rfl (fun _ => rfl) fun h => (if_neg h).symm
  | case4 k0 v0 rest _ h2 ih =>
    rw [regLookup_cons, regLookup_cons, ih]
    by_cases h : k0 = k'
    · rw [if_pos h, if_pos h, if_neg (h ▸ h2)]
    · rw [if_neg h, if_neg h]

theorem regLookup_insert_self {α} (k : Bytes) (v : α) (reg : List (Bytes × α))
    (_hs : reg.Pairwise (fun e f => e.1 < f.1)) : regLookup k (regInsert k v reg) = some v :=
  (regLookup_regInsert k k v reg).trans (if_pos rfl)

theorem regLookup_insert_other {α} (k k' : Bytes) (v : α) (reg : List (Bytes × α)) (hne : k' ≠ k) :
    regLookup k' (regInsert k v reg) = regLookup k' reg :=
  (regLookup_regInsert k k' v reg).trans (if_neg hne.symm)

theorem be32_inj {n m : Nat} (hn : n < 2 ^ 32) (hm : m < 2 ^ 32) (h : be32 n = be32 m) : n = m := by
  -- a number below `256^4` is the sum of its four base-256 digits, and these are the bytes
  have digits : ∀ x : Nat, x % (256 * 256 * 256 * 256) = x % 256 + 256 * (x / 256 % 256) +
      256 * 256 * (x / 65536 % 256) + 256 * 256 * 256 * (x / 16777216 % 256) := fun x => by
    rw [Nat.mod_mul, Nat.mod_mul, Nat.mod_mul]
  rw [show (2 : Nat) ^ 32 = 256 * 256 * 256 * 256 by decide] at hn hm
  simp only [be32, List.cons.injEq, and_true] at h
  obtain ⟨h3, h2, h1, h0⟩ := h
  rw [← Nat.mod_eq_of_lt hn, ← Nat.mod_eq_of_lt hm, digits, digits, h0, h1, h2, h3]

/-- the length prefix tells where the first identifier ends -/
theorem key_inj {f s f' s' : Bytes} (hf : f.length < 2 ^ 32) (hf' : f'.length < 2 ^ 32)
    (h : be32 f.length ++ f ++ s = be32 f'.length ++ f' ++ s') : f = f' ∧ s = s' := by
  rw [List.append_assoc, List.append_assoc] at h
  obtain ⟨hb, hr⟩ := List.append_inj h rfl
  exact List.append_inj hr (be32_inj hf hf' hb)

theorem pairKey_comm (a b : Bytes) : pairKey a b = pairKey b a := by
  unfold pairKey sortPair
  rcases lt_trichotomy a b with h | rfl | h
  · rw [if_neg (lt_asymm h), if_pos h]
  · rfl
  · rw [if_pos h, if_neg (lt_asymm h)]

theorem pairKey_inj {a b c d : Bytes} (ha : a.length < 2 ^ 32) (hb : b.length < 2 ^ 32)
    (hc : c.length < 2 ^ 32) (hd : d.length < 2 ^ 32) (h : pairKey a b = pairKey c d) :
    (a = c ∧ b = d) ∨ (a = d ∧ b = c) := by
  unfold pairKey sortPair at h
  split_ifs at h
  · exact Or.inl (key_inj hb hd h).symm
  · exact Or.inr (key_inj hb hc h).symm
  · exact Or.inr (key_inj ha hd h)
  · exact Or.inl (key_inj ha hc h)

theorem pairKey_shape (a b : Bytes) :
    ∃ n r, pairKey a b = be32 n ++ r ∧ ∀ x ∈ r, x ∈ a ∨ x ∈ b := by
  unfold pairKey sortPair
  split_ifs
  · exact ⟨b.length, b ++ a, List.append_assoc _ _ _, fun x hx => (List.mem_append.1 hx).symm⟩
  · exact ⟨a.length, a ++ b, List.append_assoc _ _ _, fun x hx => List.mem_append.1 hx⟩

theorem noLowExt_of_ids_ge_2 {α} (reg : List (Bytes × α))
    (h : ∀ e ∈ reg, ∃ a b : Bytes, e.1 = pairKey a b ∧ (∀ x ∈ a, 2 ≤ x) ∧ (∀ x ∈ b, 2 ≤ x)) :
    NoLowExt reg := by
  intro c hc k hk
  obtain ⟨a, b, hce, _, _⟩ := h c hc
  obtain ⟨a', b', hke, ha', hb'⟩ := h k hk
  obtain ⟨n, r, hcs, _⟩ := pairKey_shape a b
  obtain ⟨n', r', hks, hr'⟩ := pairKey_shape a' b'
  -- any suffix extending `c` to `k` lies inside `r'`
  have hsuf : ∀ suf, k.1 = c.1 ++ suf → ∀ x ∈ suf, 2 ≤ x := by
    intro suf hsuf x hx
    rw [hke, hks, hce, hcs, List.append_assoc] at hsuf
    have hx' : x ∈ r' := (List.append_inj hsuf rfl).2 ▸ List.mem_append_right _ hx
    exact (hr' x hx').elim (ha' x) (hb' x)
  exact ⟨fun s hs => absurd (hsuf (0 :: s) hs 0 List.mem_cons_self) (by decide),
    fun hs => absurd (hsuf [1] hs 1 List.mem_cons_self) (by decide)⟩

theorem regLookup_of_mem {α} {reg : List (Bytes × α)} (hs : reg.Pairwise (fun e f => e.1 < f.1))
    {e : Bytes × α} (he : e ∈ reg) : regLookup e.1 reg = some e.2 := by
  induction reg with
  | nil => cases he
  | cons hd rest ih =>
    obtain ⟨hhd, hrest⟩ := List.pairwise_cons.1 hs
    rw [regLookup_cons]
    rcases List.mem_cons.1 he with rfl | h
    · rw [if_pos rfl]
    · rw [if_neg (ne_of_lt (hhd e h)), ih hrest h]

theorem mem_of_regLookup {α} {reg : List (Bytes × α)} {k : Bytes} {v : α} (h : regLookup k reg = some v) :
    (k, v) ∈ reg := by
  obtain ⟨e, he, rfl⟩ := Option.map_eq_some_iff.1 h
  obtain rfl : e.1 = k := of_decide_eq_true (List.find?_some he :)
  exact List.mem_of_find?_eq_some he

/-- a relation between values that holds pairwise in the list, and between the new value and every old one, holds
pairwise after insertion -/
theorem regInsert_pairwise {α} (S : α → α → Prop) (k : Bytes) (v : α) (reg : List (Bytes × α))
    (hp : reg.Pairwise (fun e f => S e.2 f.2)) (h1 : ∀ e ∈ reg, S v e.2) (h2 : ∀ e ∈ reg, S e.2 v) :
    (regInsert k v reg).Pairwise (fun e f => S e.2 f.2) := by
  fun_induction regInsert k v reg with
  | case1 => exact List.pairwise_singleton _ _
  | case2 => exact List.pairwise_cons.2 ⟨h1, hp⟩
  | case3 => exact List.pairwise_cons.2 ⟨fun e he => h1 e (List.mem_cons_of_mem _ he), (List.pairwise_cons.1 hp).2⟩
  | case4 k' v' rest _ _ ih =>
    obtain ⟨hhd, hrest⟩ := List.pairwise_cons.1 hp
    refine List.pairwise_cons.2 ⟨fun e he => ?_, ih hrest (fun e he => h1 e (List.mem_cons_of_mem _ he))
      (fun e he => h2 e (List.mem_cons_of_mem _ he))⟩
    rcases mem_regInsert k v rest e he with rfl | h
    · exact h2 _ List.mem_cons_self
    · exact hhd e h

theorem regInsert_replace {α} (k : Bytes) (v v0 : α) (l1 l2 : List (Bytes × α))
    (hs : (l1 ++ (k, v0) :: l2).Pairwise (fun e f => e.1 < f.1)) :
    regInsert k v (l1 ++ (k, v0) :: l2) = l1 ++ (k, v) :: l2 := by
  induction l1 with
  | nil => simp [regInsert]
  | cons hd t ih =>
    obtain ⟨k', v'⟩ := hd
    obtain ⟨hhd, hrest⟩ := List.pairwise_cons.1 hs
    have hlt : k' < k := hhd (k, v0) (by simp)
    simp only [List.cons_append, regInsert, lt_asymm hlt, (ne_of_lt hlt).symm, if_false]
    rw [ih hrest]

theorem sorted_of_keys_eq {α β} {l : List (Bytes × α)} {l' : List (Bytes × β)}
    (h : l'.map Prod.fst = l.map Prod.fst) (hs : l.Pairwise (fun e f => e.1 < f.1)) :
    l'.Pairwise (fun e f => e.1 < f.1) := by
  have a : (l.map Prod.fst).Pairwise (· < ·) := by rw [List.pairwise_map]; exact hs
  rw [← h, List.pairwise_map] at a
  exact a

end Halo.C19
