/-
Proofs for C04 (refund arithmetic of `withdraw_liquidity`) and C05
(`calculate_lp_token_amount_to_user`).  Statements live in `Halo/Props/C04.lean`, `Halo/Props/C05.lean`.
-/
import Halo.Proofs.Basic
import Halo.Formulas
import Halo.Spec

namespace Halo.C04

theorem refund_ok_iff {r a S x : Nat} :
    withdrawRefund r a S = .ok x ↔
      S ≠ 0 ∧ a * E / S < W ∧ r * (a * E / S) / E < W ∧ x = r * (a * E / S) / E := by
  simp only [withdrawRefund, bind_ok_iff, Cw.decFromRatio_ok, Cw.mulDec_ok, and_assoc,
    exists_and_left, exists_eq_left]

/-- the two-floor bracket, with the scale `e` opaque: `ρ = ⌊a·e/S⌋`, `x = ⌊r·ρ/e⌋` -/
private theorem bracket {e r a S ρ x : Nat} (hS : 0 < S)
    (h1 : ρ * S ≤ a * e) (h2 : a * e < (ρ + 1) * S)
    (h3 : x * e ≤ r * ρ) (h4 : r * ρ < (x + 1) * e) (he : 0 < e) :
    x * S ≤ r * a ∧ r * a * e < (x + 1) * S * e + r * S :=
  ⟨two_floors_le he h1 h3,
    calc r * a * e ≤ r * a * e + r := Nat.le_add_right ..
      _ < r * a * e + r + S := Nat.lt_add_of_pos_right hS
      _ ≤ _ := two_floors_gap h2 h4⟩

/-- `r·a/S − r/10^18 − 1 < x ≤ r·a/S`, for any burn that succeeds -/
theorem refund_bracket {r a S x : Nat} (h : withdrawRefund r a S = .ok x) :
    x * S ≤ r * a ∧ r * a * E < (x + 1) * S * E + r * S := by
  obtain ⟨hS, -, -, rfl⟩ := refund_ok_iff.mp h
  have hS := Nat.pos_of_ne_zero hS
  have hρ := div_round (a * E) hS
  have hx := div_round (r * (a * E / S)) E_pos
  exact bracket hS hρ.1 hρ.2 hx.1 hx.2 E_pos

theorem refund_bounds {r a S x : Nat}
    (h : withdrawRefund r a S = .ok x) (_ha : 1 ≤ a) (_haS : a ≤ S) :
    Spec.c04 r a S x = true := by
  simp only [Spec.c04, Bool.and_eq_true, decide_eq_true_eq]
  exact refund_bracket h

private theorem scaled_le {a S : Nat} (haS : a ≤ S) (r e : Nat) :
    a * e / S ≤ e ∧ r * (a * e / S) / e ≤ r := by
  have hρ : a * e / S ≤ e := Nat.div_le_of_le_mul (Nat.mul_le_mul_right e haS)
  exact ⟨hρ, Nat.div_le_of_le_mul (Nat.mul_comm e r ▸ Nat.mul_le_mul_left r hρ)⟩

theorem refund_le_reserve {r a S x : Nat}
    (h : withdrawRefund r a S = .ok x) (haS : a ≤ S) : x ≤ r := by
  obtain ⟨-, -, -, rfl⟩ := refund_ok_iff.mp h
  exact (scaled_le haS r E).2

theorem refund_total {r a S : Nat} (hS : 0 < S) (haS : a ≤ S) (hr : r < W) (_hSW : S < W) :
    ∃ x, withdrawRefund r a S = .ok x :=
  have h := scaled_le haS r E
  ⟨_, refund_ok_iff.mpr ⟨Nat.ne_of_gt hS, Nat.lt_of_le_of_lt h.1 (by decide),
    Nat.lt_of_le_of_lt h.2 hr, rfl⟩⟩

theorem refund_ge_two {r a S x : Nat}
    (h : withdrawRefund r a S = .ok x) (ha : 1 ≤ a) (haS : a ≤ S)
    (hent : (r + 2 * E) * S ≤ r * a * E) : 2 ≤ x := by
  have h2 := Nat.lt_of_le_of_lt hent (refund_bracket h).2
  -- cancel `r * S`, then the factors `S` and `E`
  rw [Nat.add_mul, Nat.add_comm (r * S), Nat.mul_right_comm (x + 1)] at h2
  exact Nat.le_of_lt_succ (Nat.lt_of_mul_lt_mul_right (Nat.lt_of_mul_lt_mul_right
    (Nat.lt_of_add_lt_add_right h2)))

theorem refund_mono_amount {r a a' S x x' : Nat}
    (h : withdrawRefund r a S = .ok x) (h' : withdrawRefund r a' S = .ok x') (haa : a ≤ a') :
    x ≤ x' := by
  obtain ⟨-, -, -, rfl⟩ := refund_ok_iff.1 h
  obtain ⟨-, -, -, rfl⟩ := refund_ok_iff.1 h'
  exact mul_div_mono_right (mul_div_mono_left haa E S) r E

theorem refund_mono_reserve {r r' a S x x' : Nat}
    (h : withdrawRefund r a S = .ok x) (h' : withdrawRefund r' a S = .ok x') (hrr : r ≤ r') :
    x ≤ x' := by
  obtain ⟨-, -, -, rfl⟩ := refund_ok_iff.1 h
  obtain ⟨-, -, -, rfl⟩ := refund_ok_iff.1 h'
  exact mul_div_mono_left hrr _ E

theorem refund_superadditive {r a b S x y z : Nat}
    (ha : withdrawRefund r a S = .ok x) (hb : withdrawRefund r b S = .ok y)
    (hab : withdrawRefund r (a + b) S = .ok z) : x + y ≤ z := by
  obtain ⟨-, -, -, rfl⟩ := refund_ok_iff.1 ha
  obtain ⟨-, -, -, rfl⟩ := refund_ok_iff.1 hb
  obtain ⟨-, -, -, rfl⟩ := refund_ok_iff.1 hab
  exact Nat.le_trans (mul_add_div_le ..) (mul_div_mono_right (add_mul_div_le ..) r E)

theorem share_pos_iff {sender : Nat} {req : Requirements} {S d0 d1 r0 r1 m : Nat}
    (hS : S ≠ 0) :
    lpShare sender req S d0 d1 r0 r1 = .ok m ↔
      r0 ≠ 0 ∧ r1 ≠ 0 ∧ d0 * S / r0 < W ∧ d1 * S / r1 < W ∧
        m = min (d0 * S / r0) (d1 * S / r1) := by
  simp only [lpShare, if_neg hS, bind_ok_iff, Cw.mulRatio_ok, pure_ok_iff, and_assoc,
    exists_and_left, exists_eq_left]
  -- what is left differs from the statement in the side of `m = …` and the order of two conjuncts
  rw [@eq_comm _ _ m, and_left_comm (a := d0 * S / r0 < W)]

theorem share_pos_eq {sender : Nat} {req : Requirements} {S d0 d1 r0 r1 m : Nat}
    (hS : S ≠ 0) (h : lpShare sender req S d0 d1 r0 r1 = .ok m) :
    r0 ≠ 0 ∧ r1 ≠ 0 ∧ m = min (d0 * S / r0) (d1 * S / r1) := by
  obtain ⟨h0, h1, -, -, hm⟩ := (share_pos_iff hS).mp h
  exact ⟨h0, h1, hm⟩

theorem share_ok_iff_pos {sender : Nat} {req : Requirements} {S d0 d1 r0 r1 : Nat} (hS : S ≠ 0) :
    (∃ m, lpShare sender req S d0 d1 r0 r1 = .ok m) ↔
      r0 ≠ 0 ∧ r1 ≠ 0 ∧ d0 * S / r0 < W ∧ d1 * S / r1 < W := by
  simp only [share_pos_iff hS, exists_and_left, exists_eq, and_true]

/-- `min_i(d_i·S/r_i) − 1 < m ≤ min_i(d_i·S/r_i)`, for any provision into a pool with shares that succeeds -/
theorem share_bracket {sender : Nat} {req : Requirements} {S d0 d1 r0 r1 m : Nat}
    (hS : S ≠ 0) (h : lpShare sender req S d0 d1 r0 r1 = .ok m) :
    (m * r0 ≤ d0 * S ∧ m * r1 ≤ d1 * S) ∧ (d0 * S < (m + 1) * r0 ∨ d1 * S < (m + 1) * r1) := by
  obtain ⟨h0, h1, rfl⟩ := share_pos_eq hS h
  have b0 := div_round (d0 * S) (Nat.pos_of_ne_zero h0)
  have b1 := div_round (d1 * S) (Nat.pos_of_ne_zero h1)
  refine ⟨⟨Nat.le_trans (Nat.mul_le_mul_right r0 (Nat.min_le_left ..)) b0.1,
    Nat.le_trans (Nat.mul_le_mul_right r1 (Nat.min_le_right ..)) b1.1⟩, ?_⟩
  -- the minimum is one of the two quotients, and that one is within a unit of its ratio
  rcases Nat.le_total (d0 * S / r0) (d1 * S / r1) with hle | hle
  · rw [Nat.min_eq_left hle]; exact .inl b0.2
  · rw [Nat.min_eq_right hle]; exact .inr b1.2

theorem share_bounds_pos {sender : Nat} {req : Requirements} {S d0 d1 r0 r1 m : Nat}
    (hS : S ≠ 0) (h : lpShare sender req S d0 d1 r0 r1 = .ok m) :
    Spec.c05Pos S d0 d1 r0 r1 m = true := by
  simp only [Spec.c05Pos, Bool.and_eq_true, Bool.or_eq_true, decide_eq_true_eq]
  exact share_bracket hS h

theorem share_bounds_empty {sender : Nat} {req : Requirements} {d0 d1 r0 r1 m : Nat}
    (h : lpShare sender req 0 d0 d1 r0 r1 = .ok m) :
    Spec.c05Empty sender req d0 d1 m = true ∧ d0 * d1 < W := by
  unfold lpShare at h
  rw [if_pos rfl, ite_error_iff, ite_error_iff] at h
  simp only [bind_ok_iff, Cw.nativeMul_ok, pure_ok_iff] at h
  obtain ⟨hw, hmin, p, ⟨hW, rfl⟩, rfl⟩ := h
  refine ⟨?_, hW⟩
  simp only [Spec.c05Empty, Bool.and_eq_true, decide_eq_true_eq]
  exact ⟨⟨⟨⟨Decidable.not_not.mp hw, by omega⟩, by omega⟩, Nat.sqrt_le _⟩, Nat.lt_succ_sqrt _⟩

theorem share_mono_deposits {sender sender' : Nat} {req req' : Requirements} {S d0 d1 e0 e1 r0 r1 m m' : Nat}
    (hS : S ≠ 0) (h : lpShare sender req S d0 d1 r0 r1 = .ok m)
    (h' : lpShare sender' req' S e0 e1 r0 r1 = .ok m') (h0 : d0 ≤ e0) (h1 : d1 ≤ e1) : m ≤ m' := by
  obtain ⟨-, -, rfl⟩ := share_pos_eq hS h
  obtain ⟨-, -, rfl⟩ := share_pos_eq hS h'
  exact Nat.le_min.2 ⟨Nat.le_trans (Nat.min_le_left ..) (mul_div_mono_left h0 S r0),
    Nat.le_trans (Nat.min_le_right ..) (mul_div_mono_left h1 S r1)⟩

theorem share_superadditive {s1 s2 s3 : Nat} {q1 q2 q3 : Requirements} {S d0 d1 e0 e1 r0 r1 m n k : Nat}
    (hS : S ≠ 0) (h1 : lpShare s1 q1 S d0 d1 r0 r1 = .ok m) (h2 : lpShare s2 q2 S e0 e1 r0 r1 = .ok n)
    (h3 : lpShare s3 q3 S (d0 + e0) (d1 + e1) r0 r1 = .ok k) : m + n ≤ k := by
  obtain ⟨-, -, rfl⟩ := share_pos_eq hS h1
  obtain ⟨-, -, rfl⟩ := share_pos_eq hS h2
  obtain ⟨-, -, rfl⟩ := share_pos_eq hS h3
  exact Nat.le_min.2
    ⟨Nat.le_trans (Nat.add_le_add (Nat.min_le_left ..) (Nat.min_le_left ..)) (add_mul_div_le ..),
      Nat.le_trans (Nat.add_le_add (Nat.min_le_right ..) (Nat.min_le_right ..)) (add_mul_div_le ..)⟩

end Halo.C04
