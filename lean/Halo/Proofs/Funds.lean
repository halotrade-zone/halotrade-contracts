/-
What the funds attached to an execute message do to the bank: for every denom the total of that denom in the coin
list moves from the sender to the contract, and nothing else moves.  The contracts read the *first* coin of a denom
(`coinOf`, what `assert_sent_native_token_balance` compares, `Spec.c09`); the bank moves the *sum* (`coinSum`); they
agree when each denom occurs once, as the chain enforces (`ValidOp.coins`).  Core Lean only.
-/
import Halo.Proofs.Handlers
import Halo.Spec

namespace Halo.CallSites

/-- the amount of denom `d` the contract sees in `funds` (first coin of that denom, absent ≙ 0): the
quantity `Spec.c09` compares the declaration with -/
def coinOf (funds : List (Nat × Nat)) (d : Nat) : Nat :=
  ((funds.find? (fun c => c.1 = d)).map (·.2)).getD 0

theorem c09_iff_coinOf {d amt : Nat} {funds : List (Nat × Nat)} :
    Spec.c09 d amt funds = true ↔ coinOf funds d = amt := by
  simp [Spec.c09, coinOf]

theorem coinOf_cons (c : Nat × Nat) (cs : List (Nat × Nat)) (d : Nat) :
    coinOf (c :: cs) d = if c.1 = d then c.2 else coinOf cs d := by
  unfold coinOf
  by_cases h : c.1 = d <;> simp [h]

end Halo.CallSites

namespace Halo
open Halo.CallSites (coinOf coinOf_cons)

/-- the amount of denom `d` the bank moves for `funds`: the sum over all coins of that denom -/
def coinSum : List (Nat × Nat) → Nat → Nat
  | [], _ => 0
  | c :: cs, d => (if c.1 = d then c.2 else 0) + coinSum cs d

theorem coinOf_le_coinSum (d : Nat) : ∀ cs : List (Nat × Nat), coinOf cs d ≤ coinSum cs d
  | [] => Nat.le_refl _
  | c :: cs => by
    rw [coinOf_cons]
    unfold coinSum
    split
    · exact Nat.le_add_right _ _
    · exact Nat.le_trans (coinOf_le_coinSum d cs) (Nat.le_add_left _ _)

theorem coinSum_absent {d : Nat} : ∀ {cs : List (Nat × Nat)}, d ∉ cs.map (·.1) → coinSum cs d = 0
  | [], _ => rfl
  | c :: cs, h => by
    simp only [List.map_cons, List.mem_cons, not_or] at h
    simp only [coinSum, if_neg (Ne.symm h.1), coinSum_absent h.2]

/-- with each denom at most once the contract's reading and the bank's agree -/
theorem coinSum_eq_coinOf (d : Nat) : ∀ {cs : List (Nat × Nat)}, (cs.map (·.1)).Nodup → coinSum cs d = coinOf cs d
  | [], _ => rfl
  | c :: cs, h => by
    simp only [List.map_cons, List.nodup_cons] at h
    rw [coinOf_cons]
    by_cases hc : c.1 = d
    · subst hc
      simp only [coinSum, if_true, coinSum_absent h.1, Nat.add_zero]
    · simp only [coinSum, if_neg hc, Nat.zero_add]
      exact coinSum_eq_coinOf d h.2

theorem coinSum_filter (d : Nat) : ∀ cs : List (Nat × Nat), coinSum (cs.filter (fun c => c.2 ≠ 0)) d = coinSum cs d
  | [] => rfl
  | c :: cs => by
    by_cases hz : c.2 = 0
    · rw [List.filter_cons_of_neg (by simpa using hz), coinSum_filter d cs]
      simp only [coinSum, hz, ite_self, Nat.zero_add]
    · rw [List.filter_cons_of_pos (by simpa using hz)]
      simp only [coinSum, coinSum_filter d cs]

theorem bankMoveList_bank {s p : Nat} (hsp : s ≠ p) : ∀ {cs : List (Nat × Nat)} {w w' : World},
    bankMoveList w s p cs = .ok w' → ∀ d,
      w'.bank p d = w.bank p d + coinSum cs d ∧ w'.bank s d + coinSum cs d = w.bank s d ∧
      ∀ z, z ≠ s → z ≠ p → w'.bank z d = w.bank z d
  | [], w, w', h, d => by
    cases h
    exact ⟨rfl, rfl, fun _ _ _ => rfl⟩
  | (x, a) :: cs, w, w', h, d => by
    simp only [bankMoveList, bind_ok_iff] at h
    obtain ⟨w1, h1, h2⟩ := h
    obtain ⟨i1, i2, i3⟩ := bankMoveList_bank hsp h2 d
    have B := bankMove1_bank h1
    have hle := (bankMove1_ok h1).1
    have hps : p ≠ s := Ne.symm hsp
    refine ⟨?_, ?_, ?_⟩
    · rw [i1, B]
      by_cases hd : d = x
      · subst hd; simp only [coinSum, if_true, if_neg hps]; omega
      · simp only [coinSum, if_neg hd, if_neg (Ne.symm hd)]; omega
    · rw [B] at i2
      by_cases hd : d = x
      · subst hd
        simp only [if_true, if_neg hsp] at i2
        simp only [coinSum, if_true]
        omega
      · simp only [if_neg hd] at i2
        simp only [coinSum, if_neg (Ne.symm hd)]
        omega
    · intro z hz1 hz2
      rw [i3 z hz1 hz2, B]
      simp only [if_neg hz1, if_neg hz2, ite_self]

/-- attached funds: the contract gains, and the sender loses, the total of every denom in the list; no third account and
no cw20 balance changes -/
theorem attach_bal {w w0 : World} {s p : Nat} {funds : List (Nat × Nat)} (hsp : s ≠ p)
    (h : attach w s p funds = .ok w0) :
    (∀ d, bal w0 (.native d) p = bal w (.native d) p + coinSum funds d) ∧
    (∀ d, bal w0 (.native d) s + coinSum funds d = bal w (.native d) s) ∧
    (∀ d z, z ≠ s → z ≠ p → bal w0 (.native d) z = bal w (.native d) z) ∧
    (∀ t z, bal w0 (.token t) z = bal w (.token t) z) := by
  have B := fun d => bankMoveList_bank hsp (attach_ok h) d
  simp only [coinSum_filter] at B
  exact ⟨fun d => (B d).1, fun d => (B d).2.1, fun d z h1 h2 => (B d).2.2 z h1 h2,
    fun t z => by simp only [bal, attach_tok h]⟩

/-- hence the contract's balance of every denom grows by at least what it reads as attached, whatever the coin list -/
theorem attach_credit {w w0 : World} {s p : Nat} {funds : List (Nat × Nat)} (h : attach w s p funds = .ok w0)
    (hsp : s ≠ p) (d : Nat) : w.bank p d + coinOf funds d ≤ w0.bank p d :=
  Nat.le_trans (Nat.add_le_add_left (coinOf_le_coinSum d funds) _) (Nat.le_of_eq ((attach_bal hsp h).1 d).symm)

end Halo
