/-
Histories.  `run` folds `step`, and a failed step changes nothing, so an invariant that every *successful* operation
preserves — possibly under a side condition on the operation, evaluated in the world it starts from — holds after every
history whose steps satisfy the side condition (`run_induct`).  Core Lean only.
-/
import Halo.Inv

namespace Halo

theorem step_of_ok {name : Asset → String} {w w' : World} {op : Op} {out : Out}
    (h : exec name w op = .ok (w', out)) : step name w op = w' := by
  unfold step; rw [h]

theorem step_of_error {name : Asset → String} {w : World} {op : Op} {e : Err}
    (h : exec name w op = .error e) : step name w op = w := by
  unfold step; rw [h]

theorem step_cases (name : Asset → String) (w : World) (op : Op) :
    step name w op = w ∨ ∃ out, exec name w op = .ok (step name w op, out) := by
  cases h : exec name w op with
  | error e => exact .inl (step_of_error h)
  | ok r => exact .inr ⟨r.2, by rw [step_of_ok (show exec name w op = .ok (r.1, r.2) from h)]⟩

theorem step_eq_of_not_ok {name : Asset → String} {w : World} {op : Op} (h : ∀ r, exec name w op ≠ .ok r) :
    step name w op = w :=
  (step_cases name w op).elim id fun ⟨_, e⟩ => absurd e (h _)

namespace Reach

/-- every step of a history satisfies the side condition `C` (evaluated in the world the step starts from) -/
def StepsOK (name : Asset → String) (C : World → Op → Prop) : World → List Op → Prop
  | _, [] => True
  | w, op :: rest => C w op ∧ StepsOK name C (step name w op) rest

theorem StepsOK.mono {name : Asset → String} {C D : World → Op → Prop} (hCD : ∀ w op, C w op → D w op) :
    ∀ (ops : List Op) (w : World), StepsOK name C w ops → StepsOK name D w ops
  | [], _, _ => trivial
  | _ :: rest, _, h => ⟨hCD _ _ h.1, StepsOK.mono hCD rest _ h.2⟩

theorem stepsOK_true {name : Asset → String} : ∀ (ops : List Op) (w : World), StepsOK name (fun _ _ => True) w ops
  | [], _ => trivial
  | _ :: rest, _ => ⟨trivial, stepsOK_true rest _⟩

theorem stepsOK_of_validRun {name : Asset → String} :
    ∀ (ops : List Op) (w : World), ValidRun name w ops → StepsOK name ValidOp w ops
  | [], _, _ => trivial
  | _ :: rest, _, h => ⟨h.1, stepsOK_of_validRun rest _ h.2⟩

/-- induction along a history: failed steps leave the world unchanged -/
theorem run_induct {name : Asset → String} {C : World → Op → Prop} {I : World → Prop}
    (hstep : ∀ w w' op out, C w op → exec name w op = .ok (w', out) → I w → I w') :
    ∀ (ops : List Op) (w : World), StepsOK name C w ops → I w → I (run name w ops)
  | [], _, _, hi => hi
  | op :: rest, w, hs, hi => by
    refine run_induct hstep rest _ hs.2 ?_
    rcases step_cases name w op with e | ⟨out, e⟩
    · rw [e]; exact hi
    · exact hstep w _ op out hs.1 e hi

theorem run_preserves {name : Asset → String} {I : World → Prop}
    (hstep : ∀ w w' op out, exec name w op = .ok (w', out) → I w → I w') (ops : List Op) (w : World) (hi : I w) :
    I (run name w ops) :=
  run_induct (C := fun _ _ => True) (fun w w' op out _ => hstep w w' op out) ops w (stepsOK_true ops w) hi

theorem validRun_preserves {name : Asset → String} {I : World → Prop}
    (hstep : ∀ w w' op out, ValidOp w op → exec name w op = .ok (w', out) → I w → I w') (ops : List Op) (w : World)
    (hv : ValidRun name w ops) (hi : I w) : I (run name w ops) :=
  run_induct hstep ops w (stepsOK_of_validRun ops w hv) hi

end Reach
end Halo
