/-
Sums of balances under the effects of the ledger primitives (`Paid`, `Minted`, `Burnt`, `Unmoved`, `WorldBasic.lean`):
conservation over a list that contains the accounts involved (`consAt`), and bounded partial sums over every list
(`bounded`), once per effect; the latter also when a cw20 ledger is overwritten with an empty one (`Emptied`).
Core Lean only.
-/
import Halo.Inv
import Halo.Proofs.Sums

namespace Halo

/-- the supply side of the conservation equation: nothing for native coins -/
def supT (w : World) : Asset → Nat
  | .native _ => 0
  | .token t => supply w t

/-- conservation at one asset over one list -/
def ConsAt (w w' : World) (a : Asset) (L : List Nat) : Prop :=
  sumBal w' a L + supT w a = sumBal w a L + supT w' a

theorem ConsAt.trans {a b c : World} {x : Asset} {L : List Nat} (h1 : ConsAt a b x L) (h2 : ConsAt b c x L) :
    ConsAt a c x L := by
  unfold ConsAt at *
  omega

theorem supT_eq {w w' : World} (h : ∀ t, supply w' t = supply w t) (a : Asset) : supT w' a = supT w a := by
  cases a with
  | native d => rfl
  | token t => exact h t

theorem supT_of_ne {w w' : World} {t : Nat} {f : Nat → Nat} (h : ∀ u, supply w' u = if u = t then f u else supply w u)
    {a : Asset} (ha : a ≠ .token t) : supT w' a = supT w a := by
  cases a with
  | native d => rfl
  | token u => exact (h u).trans (if_neg (fun e : u = t => ha (e ▸ rfl)))

theorem consAt_same {w w' : World} {a : Asset} {L : List Nat} (hb : ∀ z, bal w' a z = bal w a z)
    (hs : supT w' a = supT w a) : ConsAt w w' a L := by
  unfold ConsAt sumBal
  rw [sum_congr (fun z _ => hb z), hs]

theorem Unmoved.consAt {w w' : World} {o : Nat} (h : Unmoved w w' o) (b : Asset) {L : List Nat} : ConsAt w w' b L :=
  consAt_same (h.bal b) (supT_eq h.supply b)

theorem Unmoved.bounded {w w' : World} {o : Nat} (h : Unmoved w w' o) (b : Asset) {B : Nat}
    (hb : Bounded (Halo.bal w b) (B + supT w b)) : Bounded (Halo.bal w' b) (B + supT w' b) := by
  rw [supT_eq h.supply]
  exact hb.congr (h.bal b)

namespace Paid
variable {w w' : World} {a : Asset} {src dst amt : Nat}

theorem consAt (h : Paid w w' a src dst amt) (b : Asset) {L : List Nat} (hn : L.Nodup) (hs : src ∈ L) (hd : dst ∈ L) :
    ConsAt w w' b L := by
  by_cases e : b = a
  · subst e
    unfold ConsAt sumBal
    rw [sum_move (fun z => by rw [h.bal, if_pos rfl]) h.le hn hs hd, supT_eq h.supply]
  · exact consAt_same (fun z => by rw [h.bal, if_neg e]) (supT_eq h.supply b)

theorem bounded (h : Paid w w' a src dst amt) (b : Asset) {B : Nat} (hb : Bounded (Halo.bal w b) (B + supT w b)) :
    Bounded (Halo.bal w' b) (B + supT w' b) := by
  rw [supT_eq h.supply]
  by_cases e : b = a
  · subst e
    exact hb.move (fun z => by rw [h.bal, if_pos rfl]) h.le
  · exact hb.congr (fun z => by rw [h.bal, if_neg e])

end Paid

namespace Minted
variable {w w' : World} {t sd dst amt : Nat}

theorem consAt (h : Minted w w' t sd dst amt) (b : Asset) {L : List Nat} (hn : L.Nodup) (hd : dst ∈ L) :
    ConsAt w w' b L := by
  by_cases e : b = .token t
  · subst e
    have := sum_add_at (f := Halo.bal w (.token t)) (g := Halo.bal w' (.token t)) (x := dst) (k := amt)
      (fun z => by rw [h.bal]; simp only [true_and]) hn hd
    show sumBal w' _ L + Halo.supply w t = sumBal w _ L + Halo.supply w' t
    unfold sumBal
    rw [h.supply, if_pos rfl]
    omega
  · exact consAt_same (fun z => by rw [h.bal, if_neg (fun c => e c.1)]) (supT_of_ne h.supply e)

theorem bounded (h : Minted w w' t sd dst amt) (b : Asset) {B : Nat} (hb : Bounded (Halo.bal w b) (B + supT w b)) :
    Bounded (Halo.bal w' b) (B + supT w' b) := by
  by_cases e : b = .token t
  · subst e
    have := hb.add (g := Halo.bal w' (.token t)) (dst := dst) (amt := amt) (fun z => by rw [h.bal]; simp only [true_and])
    show Bounded _ (B + Halo.supply w' t)
    rw [h.supply, if_pos rfl, ← Nat.add_assoc]
    exact this
  · rw [supT_of_ne h.supply e]
    exact hb.congr (fun z => by rw [h.bal, if_neg (fun c => e c.1)])

end Minted

namespace Burnt
variable {w w' : World} {t s amt : Nat}

theorem consAt (h : Burnt w w' t s amt) (b : Asset) {L : List Nat} (hn : L.Nodup) (hs : s ∈ L) : ConsAt w w' b L := by
  by_cases e : b = .token t
  · subst e
    have := sum_sub_at (f := Halo.bal w (.token t)) (g := Halo.bal w' (.token t)) (x := s) (k := amt)
      (fun z => by rw [h.bal]; simp only [true_and]) h.le hn hs
    have := h.le_supply
    show sumBal w' _ L + Halo.supply w t = sumBal w _ L + Halo.supply w' t
    unfold sumBal
    rw [h.supply, if_pos rfl]
    omega
  · exact consAt_same (fun z => by rw [h.bal, if_neg (fun c => e c.1)]) (supT_of_ne h.supply e)

theorem bounded (h : Burnt w w' t s amt) (b : Asset) {B : Nat} (hb : Bounded (Halo.bal w b) (B + supT w b)) :
    Bounded (Halo.bal w' b) (B + supT w' b) := by
  by_cases e : b = .token t
  · subst e
    have := hb.sub (g := Halo.bal w' (.token t)) (s := s) (amt := amt) (fun z => by rw [h.bal]; simp only [true_and]) h.le
    show Bounded _ (B + Halo.supply w' t)
    rw [h.supply, if_pos rfl, ← Nat.add_sub_assoc h.le_supply]
    exact this
  · rw [supT_of_ne h.supply e]
    exact hb.congr (fun z => by rw [h.bal, if_neg (fun c => e c.1)])

end Burnt

/-- an emptied cw20 ledger is bounded by its supply, both being 0 -/
theorem Emptied.bounded {w w' : World} {nl : Nat} (h : Emptied w w' nl) (b : Asset) {B : Nat}
    (hb : Bounded (Halo.bal w b) (B + supT w b)) : Bounded (Halo.bal w' b) (B + supT w' b) := by
  by_cases e : b = .token nl
  · exact (Bounded.zero _).congr fun z => by rw [h.bal, if_pos e]
  · rw [supT_of_ne (f := fun _ => 0) h.supply e]
    exact hb.congr fun z => by rw [h.bal, if_neg e]

end Halo
