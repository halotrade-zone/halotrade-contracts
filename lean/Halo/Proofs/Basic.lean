/-
Helper lemmas shared by all proofs: the `Except` bind and guards, which error a term can raise (`NG`), an
`ok`-inversion lemma for each primitive of `Halo/Num.lean` that the formulas use (and its if-form where the error
class matters), and the facts about floor division and positional notation that the arithmetic proofs keep using.
Core Lean only.
-/
import Halo.Num

namespace Halo

@[simp] theorem bind_ok_iff {α β} (x : M α) (f : α → M β) (b : β) :
    (x >>= f) = .ok b ↔ ∃ a, x = .ok a ∧ f a = .ok b := by
  cases x <;> simp [bind, Except.bind]

@[simp] theorem bind_error_iff {α β} (x : M α) (f : α → M β) (e : Err) :
    (x >>= f) = .error e ↔ x = .error e ∨ ∃ a, x = .ok a ∧ f a = .error e := by
  cases x <;> simp [bind, Except.bind]

@[simp] theorem pure_ok_iff {α} (a b : α) : (pure a : M α) = .ok b ↔ a = b := by
  simp [pure, Except.pure]

@[simp] theorem pure_ne_error {α} (a : α) (e : Err) : (pure a : M α) ≠ .error e := by
  simp [pure, Except.pure]

theorem ok_bind {α β} (a : α) (f : α → M β) : (Except.ok a >>= f) = f a := rfl

theorem ite_ok_bind {α β} {P : Prop} [Decidable P] (v : α) (f : α → M β) {e : Err} :
    ((if P then .ok v else .error e : M α) >>= f) = if P then f v else .error e := by
  split <;> rfl

/-- an evaluation that ends in `ok` has a value (for witnesses: `isOk` of a closed term is decided by evaluation) -/
theorem exists_of_isOk {α} {x : M α} (h : x.isOk = true) : ∃ v, x = .ok v := by
  cases x with
  | ok v => exact ⟨v, rfl⟩
  | error e => cases h

theorem E_pos : 0 < E := by decide
theorem E_eq : E = 10 ^ 18 := by decide
theorem U_eq : U = 2 ^ 256 := rfl
theorem W_eq : W = 2 ^ 128 := rfl
theorem L_eq : L = 2 ^ 64 := rfl
theorem W_lt_U : W < U := by decide
theorem W_mul_W : W * W = U := by decide
theorem E_lt_L : E < L := by decide
theorem L_pos : 0 < L := by decide
theorem W_pos : 0 < W := by decide
theorem U_pos : 0 < U := by decide
theorem W_eq_LL : W = L * L := by decide
theorem U_eq_L4 : U = L * L * L * L := by decide

theorem ite_ok_iff {α} {c : Prop} [Decidable c] {a r : α} {e : Err} :
    (if c then .ok a else .error e : M α) = .ok r ↔ c ∧ r = a := by
  split <;> simp [*, eq_comm]

theorem ite_error_ok_iff {α} {c : Prop} [Decidable c] {a r : α} {e : Err} :
    (if c then .error e else .ok a : M α) = .ok r ↔ ¬c ∧ r = a := by
  split <;> simp [*, eq_comm]

theorem ite_error_iff {α} {c : Prop} [Decidable c] {x : M α} {r : α} {e : Err} :
    (if c then .error e else x) = .ok r ↔ ¬c ∧ x = .ok r := by
  split <;> simp [*]

theorem ite_else_error_iff {α} {c : Prop} [Decidable c] {x : M α} {r : α} {e : Err} :
    (if c then x else .error e) = .ok r ↔ c ∧ x = .ok r := by
  split <;> simp [*]

theorem guard_ok {α} {c : Prop} [Decidable c] {x : M α} {r : α} {e : Err}
    (h : (if c then .error e else x) = .ok r) : ¬ c ∧ x = .ok r :=
  ite_error_iff.mp h

theorem ite_error_error_iff {α} {c : Prop} [Decidable c] {x : M α} {e e' : Err} (h : e ≠ e') :
    (if c then .error e else x) = .error e' ↔ ¬c ∧ x = .error e' := by
  split
  · exact iff_of_false (fun he => h (Except.error.inj he)) fun h' => h'.1 ‹_›
  · exact (and_iff_right ‹_›).symm

theorem bind_unit_ok {x y : M Unit} : (x >>= fun _ => y) = .ok () ↔ x = .ok () ∧ y = .ok () :=
  (bind_ok_iff ..).trans ⟨fun ⟨_, h⟩ => h, fun h => ⟨(), h⟩⟩

theorem bind_unit_error {x y : M Unit} {e : Err} :
    (x >>= fun _ => y) = .error e ↔ x = .error e ∨ x = .ok () ∧ y = .error e :=
  (bind_error_iff ..).trans (or_congr_right ⟨fun ⟨_, h⟩ => h, fun h => ⟨(), h⟩⟩)

/-- a check that rejects with the guard error, behind conditions whose failure is a panic -/
theorem check_ok {C G : Prop} [Decidable C] [Decidable G] :
    (if C then if G then .error .guard else .ok () else .error .abort : M Unit) = .ok () ↔
      C ∧ ¬G := by
  by_cases hC : C <;> by_cases hG : G <;> simp [hC, hG]

theorem check_guard {C G : Prop} [Decidable C] [Decidable G] :
    (if C then if G then .error .guard else .ok () else .error .abort : M Unit) = .error .guard ↔
      C ∧ G := by
  by_cases hC : C <;> by_cases hG : G <;> simp [hC, hG]

theorem ite_ite_ok {α} {c1 c2 : Prop} [Decidable c1] [Decidable c2] {f g : M α} {e : Err} {r : α}
    (h : (if c1 then f else if c2 then g else .error e) = .ok r) : (c1 ∧ f = .ok r) ∨ (¬ c1 ∧ c2 ∧ g = .ok r) := by
  by_cases h1 : c1
  · rw [if_pos h1] at h; exact .inl ⟨h1, h⟩
  · rw [if_neg h1] at h
    by_cases h2 : c2
    · rw [if_pos h2] at h; exact .inr ⟨h1, h2, h⟩
    · rw [if_neg h2] at h; cases h

theorem ite_iff {p q : Prop} [Decidable p] [Decidable q] (h : p ↔ q) {α} (x y : α) :
    (if p then x else y) = if q then x else y :=
  ite_congr (propext h) (fun _ => rfl) fun _ => rfl

/-- a short-cut that returns what the general path would (the zero tests in front of the `Uint256` /
`Uint128` products) -/
theorem shortcut_iff {α} {c : Prop} [Decidable c] {x : M α} {v r : α} (h : c → x = .ok v) :
    (if c then .ok v else x) = .ok r ↔ x = .ok r := by
  split
  · rw [h ‹_›]
  · rfl

/-! ### Which error

`.guard` is raised by the two guard functions only; for everything else that is read off the shape of the term. -/

namespace CallSites

/-- `x` never fails with the typed guard error -/
def NG {α} (x : M α) : Prop := x ≠ .error .guard

theorem NG.bind {α β} {x : M α} {f : α → M β} (hx : NG x) (hf : ∀ a, NG (f a)) : NG (x >>= f) := fun h =>
  match (bind_error_iff _ _ _).mp h with
  | .inl h => hx h
  | .inr ⟨a, _, h⟩ => hf a h

theorem NG.ok {α} (a : α) : NG (.ok a : M α) := nofun
theorem NG.pure {α} (a : α) : NG (pure a : M α) := pure_ne_error _ _
theorem NG.err {α} {e : Err} (he : e ≠ .guard) : NG (.error e : M α) := fun h => he (Except.error.inj h)
theorem NG.ite {α} {c : Prop} [Decidable c] {x y : M α} (hx : NG x) (hy : NG y) : NG (if c then x else y) := by
  split <;> assumption

/-- a statement that cannot raise the guard error succeeded if the block raised it: one step of the walk toward
the guard -/
theorem bind_guard {α β} {x : M α} {f : α → M β} (h : (x >>= f) = .error .guard) (hx : NG x) :
    ∃ a, x = .ok a ∧ f a = .error .guard :=
  ((bind_error_iff _ _ _).mp h).resolve_left hx

/-- and if nothing after the guard can raise it, the guard did -/
theorem guard_of_bind {α β} {x : M α} {f : α → M β} (h : (x >>= f) = .error .guard) (hf : ∀ a, NG (f a)) :
    x = .error .guard :=
  ((bind_error_iff _ _ _).mp h).resolve_right fun ⟨a, _, h⟩ => hf a h

end CallSites

theorem lt_of_mul_lt {a b c : Nat} (hc : 0 < c) (h : a * c < b) : a < b :=
  Nat.lt_of_le_of_lt (Nat.le_mul_of_pos_right a hc) h

theorem div_round (n : Nat) {d : Nat} (hd : 0 < d) : n / d * d ≤ n ∧ n < (n / d + 1) * d :=
  ⟨Nat.div_mul_le_self n d, Nat.succ_mul .. ▸ Nat.lt_div_mul_add hd⟩

theorem mul_div_mono_left {a b : Nat} (h : a ≤ b) (c d : Nat) : a * c / d ≤ b * c / d :=
  Nat.div_le_div_right (Nat.mul_le_mul_right c h)

theorem mul_div_mono_right {a b : Nat} (h : a ≤ b) (c d : Nat) : c * a / d ≤ c * b / d :=
  Nat.div_le_div_right (Nat.mul_le_mul_left c h)

/-- scaling then flooring is superadditive (`Nat.div_add_div_le_add_div` is the case `c = 1`) -/
theorem add_mul_div_le (a b c d : Nat) : a * c / d + b * c / d ≤ (a + b) * c / d :=
  Nat.add_mul a b c ▸ Nat.div_add_div_le_add_div ..

theorem mul_add_div_le (a b c d : Nat) : c * a / d + c * b / d ≤ c * (a + b) / d :=
  Nat.mul_add c a b ▸ Nat.div_add_div_le_add_div ..

/-- Two successive floors, `q = ⌊n·s/d⌋` then `A = ⌊w·q/s⌋` (a ratio at scale `s`, then a multiple of it), with the
lower brackets only: they never round up, `A ≤ w·n/d`. -/
theorem two_floors_le {n d w s q A : Nat} (hs : 0 < s) (hq : q * d ≤ n * s) (hA : A * s ≤ w * q) :
    A * d ≤ w * n :=
  Nat.le_of_mul_le_mul_right
    (calc A * d * s = A * s * d := Nat.mul_right_comm ..
      _ ≤ w * q * d := Nat.mul_le_mul_right _ hA
      _ = w * (q * d) := Nat.mul_assoc ..
      _ ≤ w * (n * s) := Nat.mul_le_mul_left _ hq
      _ = w * n * s := (Nat.mul_assoc ..).symm) hs

/-- With the upper brackets: `w·n/d < A + 1 + w/s`, in the tight integer form.  The first floor loses at most `d − 1`
in `n·s`, which the factor `w` scales; the second at most `s − 1`, scaled by `d`. -/
theorem two_floors_gap {n d w s q A : Nat} (hq : n * s < (q + 1) * d) (hA : w * q < (A + 1) * s) :
    w * n * s + w + d ≤ (A + 1) * d * s + w * d :=
  calc w * n * s + w + d = w * (n * s + 1) + d := by rw [Nat.mul_add, Nat.mul_one, Nat.mul_assoc]
    _ ≤ w * ((q + 1) * d) + d := Nat.add_le_add_right (Nat.mul_le_mul_left w hq) d
    _ = (w * q + 1) * d + w * d := by
      rw [Nat.add_mul q, Nat.one_mul, Nat.mul_add, Nat.add_mul, Nat.one_mul, Nat.mul_assoc, Nat.add_right_comm]
    _ ≤ (A + 1) * s * d + w * d := Nat.add_le_add_right (Nat.mul_le_mul_right d hA) _
    _ = (A + 1) * d * s + w * d := by rw [Nat.mul_right_comm]

theorem add_mul_lt {lo l w b : Nat} (h0 : lo < w) (h1 : l < b) : lo + l * w < b * w :=
  calc lo + l * w < w + l * w := Nat.add_lt_add_right h0 _
    _ = (l + 1) * w := by rw [Nat.succ_mul, Nat.add_comm]
    _ ≤ b * w := Nat.mul_le_mul_right w h1

theorem add_mul_lt_iff {lo hi w : Nat} (h : lo < w) : lo + hi * w < w ↔ hi = 0 :=
  ⟨fun h' => Nat.eq_zero_of_not_pos fun p =>
      Nat.not_le_of_lt h' (Nat.le_trans (Nat.le_mul_of_pos_left w p) (Nat.le_add_left ..)),
    fun h' => by rw [h', Nat.zero_mul]; exact h⟩

theorem add_mul_lt_add_mul_iff {lo lo' h k w : Nat} (hl : lo < w) (hl' : lo' < w) :
    lo + h * w < lo' + k * w ↔ h < k ∨ (h = k ∧ lo < lo') := by
  have key {lo lo' h k : Nat} (hl : lo < w) (hk : h < k) : lo + h * w < lo' + k * w :=
    Nat.lt_of_lt_of_le (add_mul_lt hl hk) (Nat.le_add_left ..)
  rcases Nat.lt_trichotomy h k with hlt | rfl | hgt
  · exact iff_of_true (key hl hlt) (.inl hlt)
  · rw [Nat.add_lt_add_iff_right]
    exact ⟨fun h' => .inr ⟨rfl, h'⟩, fun h' => h'.elim (absurd · (Nat.lt_irrefl h)) (·.2)⟩
  · exact iff_of_false (Nat.lt_asymm (key hl' hgt))
      (fun h' => h'.elim (Nat.lt_asymm hgt) fun e => Nat.ne_of_gt hgt e.1)

namespace u256
theorem add_ok {a b r : Nat} : add a b = .ok r ↔ a + b < U ∧ r = a + b := ite_ok_iff
theorem sub_ok {a b r : Nat} : sub a b = .ok r ↔ b ≤ a ∧ r = a - b := ite_ok_iff
theorem mul_ok {a b r : Nat} : mul a b = .ok r ↔ a * b < U ∧ r = a * b := ite_ok_iff
theorem div_ok {a b r : Nat} : div a b = .ok r ↔ b ≠ 0 ∧ r = a / b := ite_error_ok_iff
theorem rem_ok {a b r : Nat} : rem a b = .ok r ↔ b ≠ 0 ∧ r = a % b := ite_error_ok_iff

/-- multiply, then divide (the body of `Decimal256 * Decimal256`): the quotient when the product fits, a panic
otherwise -/
theorem mul_div_eq (x y : Nat) {d : Nat} (hd : d ≠ 0) :
    (do let p ← mul x y; div p d) = if x * y < U then .ok (x * y / d) else .error .abort := by
  unfold mul div
  rw [ite_ok_bind, if_neg hd]

/-- the same behind an explicit zero-divisor check: the body shared by `Decimal256::from_ratio`,
`Decimal256 / Decimal256` and `Uint256::multiply_ratio` -/
theorem guarded_mul_div_eq (x y d : Nat) :
    (if d = 0 then .error .abort else do let p ← mul x y; div p d) =
      if d ≠ 0 ∧ x * y < U then .ok (x * y / d) else .error .abort := by
  by_cases hd : d = 0
  · rw [if_pos hd, if_neg fun h => h.1 hd]
  · rw [if_neg hd, mul_div_eq x y hd]
    exact ite_iff (and_iff_right hd).symm _ _

theorem guarded_mul_div_ok {x y d r : Nat} :
    (if d = 0 then .error .abort else do let p ← mul x y; div p d) = .ok r ↔
      d ≠ 0 ∧ x * y < U ∧ r = x * y / d := by
  rw [guarded_mul_div_eq]
  exact ite_ok_iff.trans and_assoc
end u256

namespace Dec
theorem fromRatio_eq (n d : Nat) :
    fromRatio n d = if d ≠ 0 ∧ n * E < U then .ok (n * E / d) else .error .abort :=
  u256.guarded_mul_div_eq n E d
theorem fromRatio_ok {n d r : Nat} : fromRatio n d = .ok r ↔ d ≠ 0 ∧ n * E < U ∧ r = n * E / d :=
  u256.guarded_mul_div_ok
theorem fromUint_ok {v r : Nat} : fromUint v = .ok r ↔ v * E < U ∧ r = v * E := u256.mul_ok
theorem add_ok {a b r : Nat} : add a b = .ok r ↔ a + b < U ∧ r = a + b := u256.add_ok
theorem sub_ok {a b r : Nat} : sub a b = .ok r ↔ b ≤ a ∧ r = a - b := ite_ok_iff
theorem mul_eq (a b : Nat) : mul a b = if a * b < U then .ok (a * b / E) else .error .abort :=
  u256.mul_div_eq a b (Nat.ne_of_gt E_pos)
theorem mul_ok {a b r : Nat} : mul a b = .ok r ↔ a * b < U ∧ r = a * b / E := by
  rw [mul_eq]; exact ite_ok_iff
theorem div_ok {a b r : Nat} : div a b = .ok r ↔ b ≠ 0 ∧ a * E < U ∧ r = a * E / b :=
  u256.guarded_mul_div_ok
end Dec

namespace Uint
theorem add_ok {a b r : Nat} : add a b = .ok r ↔ a + b < U ∧ r = a + b := u256.add_ok
theorem sub_ok {a b r : Nat} : sub a b = .ok r ↔ b ≤ a ∧ r = a - b := ite_ok_iff
theorem mul_ok {a b r : Nat} : mul a b = .ok r ↔ a * b < U ∧ r = a * b :=
  (shortcut_iff fun h => u256.mul_ok.2 (by rw [Nat.mul_eq_zero.2 h]; exact ⟨U_pos, rfl⟩)).trans
    u256.mul_ok
theorem mulRatio_ok {u n d r : Nat} :
    mulRatio u n d = .ok r ↔ d ≠ 0 ∧ u * n < U ∧ r = u * n / d :=
  u256.guarded_mul_div_ok
theorem mulDec_ok {u d r : Nat} : mulDec u d = .ok r ↔ u * d < U ∧ r = u * d / E := by
  have hE {r} : mulRatio u d E = .ok r ↔ u * d < U ∧ r = u * d / E :=
    mulRatio_ok.trans (and_iff_right (Nat.ne_of_gt E_pos))
  exact (shortcut_iff fun h => hE.2 (by rw [Nat.mul_eq_zero.2 h]; exact ⟨U_pos, rfl⟩)).trans hE
theorem divDec_ok {u d r : Nat} : divDec u d = .ok r ↔ d ≠ 0 ∧ u * E < U ∧ r = u * E / d :=
  ite_error_iff.trans <| and_congr_right fun hd =>
    (shortcut_iff fun hu => mulRatio_ok.2 (by rw [hu, Nat.zero_mul, Nat.zero_div]; exact ⟨hd, U_pos, rfl⟩)).trans
      (mulRatio_ok.trans (and_iff_right hd))
end Uint

namespace Cw
theorem checkedSub_ok {a b r : Nat} : checkedSub a b = .ok r ↔ b ≤ a ∧ r = a - b := ite_ok_iff
theorem checkedMul_ok {a b r : Nat} : checkedMul a b = .ok r ↔ a * b < W ∧ r = a * b := ite_ok_iff
theorem mulRatio_ok {u n d r : Nat} :
    mulRatio u n d = .ok r ↔ d ≠ 0 ∧ u * n / d < W ∧ r = u * n / d :=
  ite_error_iff.trans (and_congr_right fun _ => ite_ok_iff)
theorem decFromRatio_ok {n d r : Nat} :
    decFromRatio n d = .ok r ↔ d ≠ 0 ∧ n * E / d < W ∧ r = n * E / d := mulRatio_ok
theorem mulDec_ok {u d r : Nat} : mulDec u d = .ok r ↔ u * d / E < W ∧ r = u * d / E := by
  have hE {r} : mulRatio u d E = .ok r ↔ u * d / E < W ∧ r = u * d / E :=
    mulRatio_ok.trans (and_iff_right (Nat.ne_of_gt E_pos))
  exact (shortcut_iff fun h => hE.2 (by rw [Nat.mul_eq_zero.2 h]; exact ⟨W_pos, rfl⟩)).trans hE
theorem nativeMul_ok {a b r : Nat} : nativeMul a b = .ok r ↔ a * b < W ∧ r = a * b := ite_ok_iff
theorem pow10u64_ok {k r : Nat} : pow10u64 k = .ok r ↔ 10 ^ k < L ∧ r = 10 ^ k := ite_ok_iff
end Cw

theorem Limbs.ofNat_value {n : Nat} (h : n < U) : (Limbs.ofNat n).value = n := by
  have hU : U = L ^ 4 := by decide
  have h4 : n % L ^ 4 = n := Nat.mod_eq_of_lt (hU ▸ h)
  -- peel the digits off `n % L ^ 4` from the top
  rw [Nat.mod_pow_succ (k := 3), Nat.mod_pow_succ (k := 2), Nat.mod_pow_succ (k := 1), Nat.pow_one,
    Nat.mul_comm L, Nat.mul_comm (L ^ 2), Nat.mul_comm (L ^ 3)] at h4
  exact h4

theorem Limbs.ofNat_wf (n : Nat) : (Limbs.ofNat n).wf :=
  ⟨Nat.mod_lt _ L_pos, Nat.mod_lt _ L_pos, Nat.mod_lt _ L_pos, Nat.mod_lt _ L_pos⟩

theorem Limbs.toU128_eq {x : Limbs} (hx : x.wf) :
    x.toU128 = if x.value < W then .ok x.value else .error .abort := by
  have hv : x.value = x.l0 + x.l1 * L + (x.l2 + x.l3 * L) * (L * L) := by
    simp only [Limbs.value, Nat.pow_succ, Nat.pow_zero, Nat.one_mul, Nat.add_mul, Nat.mul_assoc,
      Nat.add_assoc]
  -- the low two limbs stay below `W = L * L`, so the value does exactly when the high part is zero
  have hc : x.value < W ↔ x.l2 = 0 ∧ x.l3 = 0 := by
    rw [W_eq_LL, hv, add_mul_lt_iff (add_mul_lt hx.1 hx.2.1), Nat.add_eq_zero_iff, Nat.mul_eq_zero,
      or_iff_left (Nat.ne_of_gt L_pos)]
  unfold Limbs.toU128
  by_cases h : x.l2 = 0 ∧ x.l3 = 0
  · rw [if_pos h, if_pos (hc.2 h), hv, h.1, h.2, Nat.zero_mul, Nat.zero_add, Nat.zero_mul, Nat.add_zero, Nat.add_comm]
  · rw [if_neg h, if_neg (mt hc.1 h)]

theorem Limbs.toU128_ok {x : Limbs} {r : Nat} (hx : x.wf) : x.toU128 = .ok r ↔ x.value < W ∧ r = x.value := by
  rw [Limbs.toU128_eq hx]; exact ite_ok_iff

theorem toU128_eq {n : Nat} (h : n < U) : toU128 n = if n < W then .ok n else .error .abort := by
  rw [toU128, Limbs.toU128_eq (Limbs.ofNat_wf n), Limbs.ofNat_value h]

theorem toU128_ok {n r : Nat} (h : n < U) : toU128 n = .ok r ↔ n < W ∧ r = n := by
  rw [toU128_eq h]; exact ite_ok_iff

theorem ofU128_eq (a : Nat) : ofU128 a = a := by
  unfold ofU128 Limbs.ofU128 Limbs.splitU128 Limbs.value
  simp only [Nat.zero_mul, Nat.add_zero, Nat.mul_comm]
  exact Nat.mod_add_div a L

end Halo
