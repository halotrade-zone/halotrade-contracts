/-
C02 / C12W proofs — swap settlement at world level, and simulation = execution.

What a successful `pairSwap` checked and computed is the record `Swapped` (`pairSwap_ok`); what it moved is one payment
`Paid` from the pair to the recipient (`pairSwap_paid`), of nothing when the return is zero.
Balances are followed in additive form, `bal w' c z + (what z paid) = bal w c z + (what z received)` (`Paid.add`): such
equations compose by adding them and stay true when payer and payee coincide (a pair paying itself).  Both swap entry
points (`pairExec_swap_ok`, `tokSendPair_swap_ok`), and a router hop, are "a credit `payout w r offer p amt` to the pair,
then `pairSwap`" (single-coin funds and a cw20 transfer are both `payout`), so what holds of them is proved for that
shape: `credit_swap_add`, `sim_eq_of_swap`.
Core Lean only.
-/
import Halo.Proofs.Handlers
import Halo.Proofs.SwapsOn
import Halo.Spec
import Halo.Props.C09

namespace Halo.C02

theorem attach_single_effect {w w0 : World} {s p d amt : Nat} (hsp : s ≠ p)
    (h : attach w s p [(d, amt)] = .ok w0) :
    amt ≠ 0 ∧ amt ≤ bal w (.native d) s ∧
    bal w0 (.native d) p = bal w (.native d) p + amt ∧ bal w0 (.native d) s = bal w (.native d) s - amt ∧
    (∀ a z, (a ≠ .native d ∨ (z ≠ p ∧ z ≠ s)) → bal w0 a z = bal w a z) :=
  payout_effect hsp (attach_single .. ▸ h)

/-- a credit of `x` of `o` from `r` to the pair followed by the swap of it — the shape of both swap entry points and of a
router hop: the two transfers, additively -/
theorem credit_swap_add {w w0 w1 : World} {p r trader x : Nat} {P : PairSt} {funds : List (Nat × Nat)} {o : Asset}
    {b ms tgt : Option Nat} {so : SwapOut} (hc : payout w r o p x = .ok w0)
    (hsw : pairSwap w0 p P funds trader o x b ms tgt = .ok (w1, so)) (c : Asset) (z : Nat) :
    bal w1 c z + (if c = o ∧ z = r then x else 0) + (if c = so.ask ∧ z = p then so.ret else 0) =
      bal w c z + (if c = o ∧ z = p then x else 0) + (if c = so.ask ∧ z = tgt.getD trader then so.ret else 0) := by
  have e1 := payout_add hc c z
  have e2 := (pairSwap_paid hsw).add c z
  omega

theorem pairExec_swap_ok {w w' : World} {s p : Nat} {funds : List (Nat × Nat)} {offer : Asset} {amt : Nat}
    {b ms to : Option Nat} {out : Out} (h : pairExec w s p funds (.swap offer amt b ms to) = .ok (w', out)) :
    ∃ P w0 o, w.pair p = some P ∧ attach w s p funds = .ok w0 ∧
      pairSwap w0 p P funds s offer amt b ms to = .ok (w', o) ∧ out = .swap o := by
  obtain ⟨P, w0, hP, h0, _, _, o, _, _, hs, he⟩ := pairExec_ok h
  cases he
  exact ⟨P, w0, o, hP, h0, hs, rfl⟩

theorem swap_native_effect {w w' : World} {s p d amt : Nat} {funds : List (Nat × Nat)}
    {b ms to : Option Nat} {o : SwapOut}
    (h : pairExec w s p funds (.swap (.native d) amt b ms to) = .ok (w', .swap o)) :
    ∃ P w0, w.pair p = some P ∧ attach w s p funds = .ok w0 ∧
      (P.a0 = .native d ∨ P.a1 = .native d) ∧ Spec.c09 d amt funds = true ∧ o.offer = amt ∧
      (o.ask = P.a0 ∨ o.ask = P.a1) ∧ (P.a0 ≠ P.a1 → o.ask ≠ .native d) ∧
      o.ret ≤ bal w0 o.ask p ∧
      (to.getD s ≠ p → bal w' o.ask p = bal w0 o.ask p - o.ret ∧ bal w' o.ask (to.getD s) = bal w0 o.ask (to.getD s) + o.ret) ∧
      (∀ a z, (a ≠ o.ask ∨ (z ≠ p ∧ z ≠ to.getD s)) → bal w' a z = bal w0 a z) ∧
      (∀ t, supply w' t = supply w0 t) := by
  obtain ⟨P, w0, _, hP, hat, hsw, he⟩ := pairExec_swap_ok h
  cases he
  have k := pairSwap_ok hsw
  have pd := pairSwap_paid hsw
  obtain ⟨fr, mv⟩ := move_of_add pd.add
  exact ⟨P, w0, hP, hat, k.side.imp Eq.symm Eq.symm, (Halo.Props.C09.assertSent_iff d amt funds).1 k.sent, k.offer_eq,
    k.ask_other ▸ P.other_mem _, fun hne => k.ask_other ▸ P.other_ne hne _, pd.le, mv, fr, pd.supply⟩

theorem tokSendPair_swap_ok {w w' : World} {t u p amt a : Nat} {offer : Asset}
    {b ms to : Option Nat} {r : Out}
    (h : tokSendPair w t u p amt (.swap offer a b ms to) = .ok (w', r)) :
    ∃ P w0 o, w.pair p = some P ∧ tokTransfer w t u p amt = .ok w0 ∧
      pairSwap w0 p P [] u (.token t) amt b ms to = .ok (w', o) ∧ r = .swap o ∧
      offer = .token t ∧ a = amt ∧ (P.a0 = .token t ∨ P.a1 = .token t) := by
  obtain ⟨w0, htr, hrc⟩ := tokSendPair_ok h
  obtain ⟨P, hP, rfl, hau, rfl, _, w1, o, hsw, he⟩ := pairReceive_swap hrc
  cases he
  rw [(tokTransfer_paid htr).kept.pair] at hP
  exact ⟨P, w0, o, hP, htr, hsw, rfl, rfl, rfl, hau⟩

theorem swap_hook_effect {w w' : World} {t u p amt a : Nat} {offer : Asset}
    {b ms to : Option Nat} {o : SwapOut} (hup : u ≠ p)
    (h : tokSendPair w t u p amt (.swap offer a b ms to) = .ok (w', .swap o)) :
    ∃ P w0, w.pair p = some P ∧ tokTransfer w t u p amt = .ok w0 ∧
      offer = .token t ∧ a = amt ∧ o.offer = amt ∧ (P.a0 = .token t ∨ P.a1 = .token t) ∧
      amt ≠ 0 ∧ amt ≤ bal w (.token t) u ∧
      bal w0 (.token t) p = bal w (.token t) p + amt ∧ bal w0 (.token t) u = bal w (.token t) u - amt ∧
      (o.ask = P.a0 ∨ o.ask = P.a1) ∧ (P.a0 ≠ P.a1 → o.ask ≠ .token t) ∧
      o.ret ≤ bal w0 o.ask p ∧
      (to.getD u ≠ p → bal w' o.ask p = bal w0 o.ask p - o.ret ∧ bal w' o.ask (to.getD u) = bal w0 o.ask (to.getD u) + o.ret) ∧
      (∀ x z, (x ≠ o.ask ∨ (z ≠ p ∧ z ≠ to.getD u)) → bal w' x z = bal w0 x z) ∧
      (∀ x z, (x ≠ .token t ∨ (z ≠ p ∧ z ≠ u)) → bal w0 x z = bal w x z) := by
  obtain ⟨P, w0, o', hP, htr, hsw, ho, hof, ha, hau⟩ := tokSendPair_swap_ok h
  cases ho
  obtain ⟨t1, t2, t3, t4, t5⟩ := payout_effect (a := .token t) hup htr
  have k := pairSwap_ok hsw
  have pd := pairSwap_paid hsw
  obtain ⟨fr, mv⟩ := move_of_add pd.add
  exact ⟨P, w0, hP, htr, hof, ha, k.offer_eq, hau, t1, t2, t3, t4, k.ask_other ▸ P.other_mem _,
    fun hne => k.ask_other ▸ P.other_ne hne _, pd.le, mv, fr, t5⟩

theorem hook_wrong_asset_rejected {w : World} {t u p amt a : Nat} {offer : Asset}
    {b ms to : Option Nat} {r : World × Out} (hne : offer ≠ .token t) :
    tokSendPair w t u p amt (.swap offer a b ms to) ≠ .ok r := by
  intro h
  obtain ⟨_, _, _, _, _, _, _, hof, _⟩ := tokSendPair_swap_ok h
  exact hne hof

theorem hook_wrong_amount_rejected {w : World} {t u p amt a : Nat} {offer : Asset}
    {b ms to : Option Nat} {r : World × Out} (hne : a ≠ amt) :
    tokSendPair w t u p amt (.swap offer a b ms to) ≠ .ok r := by
  intro h
  obtain ⟨_, _, _, _, _, _, _, _, ha, _⟩ := tokSendPair_swap_ok h
  exact hne ha

theorem swap_reports_pricing {w0 w' : World} {p : Nat} {P : PairSt} {funds : List (Nat × Nat)} {trader : Nat}
    {offer : Asset} {amt : Nat} {b ms to : Option Nat} {o : SwapOut}
    (h : pairSwap w0 p P funds trader offer amt b ms to = .ok (w', o)) (_hne : P.a0 ≠ P.a1) :
    ∃ ask, o.ask = ask ∧ ((offer = P.a0 ∧ ask = P.a1) ∨ (offer = P.a1 ∧ ask = P.a0)) ∧
      amt ≤ bal w0 offer p ∧
      computeSwap (bal w0 offer p - amt) (bal w0 ask p) amt P.comm = .ok (o.ret, o.spread, o.comm) ∧ o.offer = amt := by
  have k := pairSwap_ok h
  exact ⟨o.ask, rfl, k.sides.imp id (fun e => ⟨e.2.1, e.2.2⟩), k.le, k.priced, k.offer_eq⟩

theorem balOf_sameToks {w w2 : World} {a : Asset} {z v : Nat} (hs : SameToks w w2) (h : balOf w a z = .ok v) :
    balOf w2 a z = .ok (bal w2 a z) := by
  cases a with
  | native d => rfl
  | token t => rw [balOf_token, hs t, if_pos (balOf_token_ok h)]

/-- the `Simulation` query of a pair for one of its two assets: `compute_swap` on the pair's balances of that asset and
of the other one -/
theorem qSimulation_eq {w : World} {p : Nat} {P : PairSt} {offer : Asset} {amt : Nat}
    (hP : w.pair p = some P) (h0 : balOf w P.a0 p = .ok (bal w P.a0 p)) (h1 : balOf w P.a1 p = .ok (bal w P.a1 p))
    (hne : P.a0 ≠ P.a1) (hs : offer = P.a0 ∨ offer = P.a1) :
    qSimulation w p offer amt = computeSwap (bal w offer p) (bal w (P.other offer) p) amt P.comm := by
  unfold qSimulation
  simp only [hP, h0, h1, ok_bind]
  rcases hs with rfl | rfl
  · rw [if_pos rfl, P.other_a0]
  · rw [if_neg (Ne.symm hne), if_pos rfl, P.other_a1 hne]

/-- `sim = exec`: when `amt` of the offer asset is credited to the pair from elsewhere and then swapped, the swap reports
what the pair's `Simulation` query answers before the credit (the credit enters the handler's pool as `bal - amt`) -/
theorem sim_eq_of_swap {w w0 w' : World} {p r : Nat} {P : PairSt} {funds : List (Nat × Nat)} {trader : Nat}
    {offer : Asset} {amt : Nat} {b ms to : Option Nat} {o : SwapOut}
    (hP : w.pair p = some P) (hne : P.a0 ≠ P.a1) (hrp : r ≠ p) (hc : payout w r offer p amt = .ok w0)
    (h : pairSwap w0 p P funds trader offer amt b ms to = .ok (w', o)) :
    qSimulation w p offer amt = .ok (o.ret, o.spread, o.comm) := by
  have k := pairSwap_ok h
  have pd := (payout_paid hc).2
  have hs : ∀ t, (w.tok t).isSome = (w0.tok t).isSome := fun t => (pd.kept.toks t).symm
  have hcs := k.priced
  rw [k.ask_other, pd.credit hrp.symm, pd.other (P.other_ne hne offer), Nat.add_sub_cancel] at hcs
  rw [qSimulation_eq hP (balOf_sameToks hs k.pool0) (balOf_sameToks hs k.pool1) hne k.side]
  exact hcs

theorem sim_eq_exec_native {w w' : World} {s p d amt : Nat} {b ms to : Option Nat} {o : SwapOut} {P : PairSt}
    (hP : w.pair p = some P) (hne : P.a0 ≠ P.a1) (hsp : s ≠ p)
    (h : pairExec w s p [(d, amt)] (.swap (.native d) amt b ms to) = .ok (w', .swap o)) :
    qSimulation w p (.native d) amt = .ok (o.ret, o.spread, o.comm) := by
  obtain ⟨P', w0, _, hP', hat, hsw, he⟩ := pairExec_swap_ok h
  cases he
  cases hP.symm.trans hP'
  exact sim_eq_of_swap hP hne hsp (attach_single .. ▸ hat) hsw

theorem sim_eq_exec_hook {w w' : World} {t u p amt : Nat} {b ms to : Option Nat} {o : SwapOut} {P : PairSt}
    (hP : w.pair p = some P) (hne : P.a0 ≠ P.a1) (hup : u ≠ p)
    (h : tokSendPair w t u p amt (.swap (.token t) amt b ms to) = .ok (w', .swap o)) :
    qSimulation w p (.token t) amt = .ok (o.ret, o.spread, o.comm) := by
  obtain ⟨P', w0, o', hP', htr, hsw, ho, -⟩ := tokSendPair_swap_ok h
  cases ho
  cases hP.symm.trans hP'
  exact sim_eq_of_swap (offer := .token t) hP hne hup htr hsw

theorem sim_is_pricing {w : World} {p : Nat} {P : PairSt} {offer : Asset} {amt : Nat} {r : Nat × Nat × Nat}
    (hP : w.pair p = some P) (h : qSimulation w p offer amt = .ok r) :
    (offer = P.a0 ∧ computeSwap (bal w P.a0 p) (bal w P.a1 p) amt P.comm = .ok r) ∨
    (offer ≠ P.a0 ∧ offer = P.a1 ∧ computeSwap (bal w P.a1 p) (bal w P.a0 p) amt P.comm = .ok r) := by
  unfold qSimulation at h
  simp only [hP, bind_ok_iff] at h
  obtain ⟨r0, h0, r1, h1, hc⟩ := h
  cases balOf_ok h0
  cases balOf_ok h1
  exact ite_ite_ok hc

theorem rsim_is_pricing {w : World} {p : Nat} {P : PairSt} {ask : Asset} {amt : Nat} {r : Nat × Nat × Nat}
    (hP : w.pair p = some P) (h : qReverseSimulation w p ask amt = .ok r) :
    (ask = P.a0 ∧ computeOfferAmount (bal w P.a1 p) (bal w P.a0 p) amt P.comm = .ok r) ∨
    (ask ≠ P.a0 ∧ ask = P.a1 ∧ computeOfferAmount (bal w P.a0 p) (bal w P.a1 p) amt P.comm = .ok r) := by
  unfold qReverseSimulation at h
  simp only [hP, bind_ok_iff] at h
  obtain ⟨r0, h0, r1, h1, hc⟩ := h
  cases balOf_ok h0
  cases balOf_ok h1
  exact ite_ite_ok hc

theorem router_sim_cons {w : World} {amt n : Nat} {o a : Asset} {rest : List (Asset × Asset)} {R : Record} {s k : Nat}
    (hR : facLookup w o a = some R) (hq : qSimulation w R.pair o amt = .ok (n, s, k)) :
    routerSimulate w amt ((o, a) :: rest) = routerSimulate w n rest := by
  simp only [routerSimulate, hR, hq]
  rfl

theorem routerSimulateTop_cons (w : World) (n : Nat) (h : Asset × Asset) (t : List (Asset × Asset)) :
    routerSimulateTop w n (h :: t) = routerSimulate w n (h :: t) :=
  if_neg (List.cons_ne_nil _ _)

theorem routerSimulateTop_congr {w w0 : World} {ops : List (Asset × Asset)}
    (h : ∀ n, routerSimulate w0 n ops = routerSimulate w n ops) (n : Nat) :
    routerSimulateTop w0 n ops = routerSimulateTop w n ops := by
  unfold routerSimulateTop
  rw [h]

theorem router_rev_cons {w : World} {amt need x : Nat} {o a : Asset} {rest : List (Asset × Asset)} {R : Record} {s k : Nat}
    (hrest : routerReverse w amt rest = .ok need) (hR : facLookup w o a = some R)
    (hq : qReverseSimulation w R.pair a need = .ok (x, s, k)) :
    routerReverse w amt ((o, a) :: rest) = .ok x := by
  simp only [routerReverse, hrest, hR]
  show (match qReverseSimulation w R.pair a need with
    | .ok (x, _, _) => (.ok x : M Nat)
    | .error _ => .error .abort) = .ok x
  rw [hq]

end Halo.C02
