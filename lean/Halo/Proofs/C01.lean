/-
C01 / C06 — proofs about `computeSwap`: closed form of the gross output, the window in which it is
one above `⌊y·a/(x+a)⌋`, the partial forms of C01, the C06 bracket, monotonicity of the gross and the net
output, and the exact success condition (`computeSwap_ok`).
-/
import Halo.Proofs.Basic
import Halo.Formulas
import Halo.Spec
import Mathlib.Tactic.Ring

namespace Halo.C01

/-- subtracting a floor leaves the rest and the remainder, exactly: if `M·D = N + R` then `(M − ⌊N/D⌋)·D = R + N mod D` -/
theorem sub_div_mul {M N R D : Nat} (h : M * D = N + R) : (M - N / D) * D = R + N % D := by
  have := Nat.div_add_mod' N D
  rw [Nat.sub_mul, h]
  omega

/-- so `M − ⌊N/D⌋` is `R/D` rounded up, the rounding written with the remainder of `N` -/
theorem sub_div_eq {M N R D : Nat} (hD : 0 < D) (h : M * D = N + R) :
    M - N / D = (R + N % D) / D :=
  (Nat.div_eq_of_eq_mul_left hD (sub_div_mul h).symm).symm

theorem mul_sub_div_mono {u v e m m' : Nat} (he : 0 < e) (hv : v ≤ u * e) (h : m ≤ m') :
    m * u - m * v / e ≤ m' * u - m' * v / e := by
  obtain ⟨t, rfl⟩ := Nat.exists_eq_add_of_le h
  have h1 : (m + t) * v / e ≤ m * v / e + t * u := by
    rw [← Nat.add_mul_div_right _ _ he, Nat.add_mul, Nat.mul_assoc]
    exact Nat.div_le_div_right (Nat.add_le_add_left (Nat.mul_le_mul_left t hv) _)
  rw [Nat.add_mul]
  omega

theorem net_mono {g g' c : Nat} (hc : c ≤ E) (h : g ≤ g') : g - g * c / E ≤ g' - g' * c / E := by
  simpa only [Nat.mul_one] using mul_sub_div_mono (u := 1) E_pos (by rwa [Nat.one_mul]) h

/-- the net amount `g − ⌊g·c/e⌋` at rate `c/e`, `c + cc = e`, is `g·cc/e` rounded up -/
theorem net_bracket {e c cc : Nat} (g : Nat) (he : 0 < e) (hc : c + cc = e) :
    g * cc ≤ (g - g * c / e) * e ∧ (g - g * c / e) * e < g * cc + e := by
  rw [sub_div_mul (R := g * cc) (by rw [← hc, Nat.mul_add])]
  exact ⟨Nat.le_add_right .., Nat.add_lt_add_left (Nat.mod_lt _ he) _⟩

/-- the net output lies within one unit of `ya·cc/(D·e)` when the gross output `g` is
`⌊(ya·e + r)/(D·e)⌋` with `r < D`  (cross-multiplied form of `g̃(1−γ) − 1 < n < g̃(1−γ) + 1`,
`g̃ = ya/D`, `γ = c/e`) -/
theorem bracket {e D ya c cc g r : Nat} (he : 0 < e) (hD : 0 < D) (hc : c + cc = e) (hr : r < D)
    (hlo : ya / D ≤ g) (hhi : g * (D * e) ≤ ya * e + r) :
    ya * cc < (g - g * c / e + 1) * (D * e) ∧ (g - g * c / e) * (D * e) < ya * cc + D * e := by
  obtain ⟨hn1, hn2⟩ := net_bracket g he hc
  generalize g - g * c / e = n at *
  have hcc : cc ≤ e := by omega
  constructor
  · -- `ya ≤ g·D + (D−1)` and `(D−1)·cc < D·e`
    have hlo' := (Nat.div_lt_iff_lt_mul hD).1 (Nat.lt_add_one_of_le hlo)
    obtain ⟨t, rfl⟩ : ∃ t, D = t + 1 := ⟨D - 1, by omega⟩
    rw [Nat.add_mul] at hlo'
    calc ya * cc ≤ (g * (t + 1) + t) * cc := Nat.mul_le_mul_right _ (by omega)
      _ = g * cc * (t + 1) + t * cc := by ring
      _ ≤ n * e * (t + 1) + t * e :=
        Nat.add_le_add (Nat.mul_le_mul_right _ hn1) (Nat.mul_le_mul_left _ hcc)
      _ < n * e * (t + 1) + t * e + e := Nat.lt_add_of_pos_right he
      _ = (n + 1) * ((t + 1) * e) := by ring
  · -- multiply by `e`; the slack `n·e + 1 ≤ g·cc + e` pays for `r·cc < D·e`
    have h3 : r * cc < D * e := Nat.mul_lt_mul_of_lt_of_le hr hcc he
    apply Nat.lt_of_mul_lt_mul_right (a := e)
    apply Nat.lt_of_add_lt_add_right (n := D * e)
    calc n * (D * e) * e + D * e = (n * e + 1) * (D * e) := by ring
      _ ≤ (g * cc + e) * (D * e) := Nat.mul_le_mul_right _ hn2
      _ = g * (D * e) * cc + e * (D * e) := by ring
      _ ≤ (ya * e + r) * cc + e * (D * e) :=
        Nat.add_le_add_right (Nat.mul_le_mul_right _ hhi) _
      _ = ya * cc * e + D * e * e + r * cc := by ring
      _ < ya * cc * e + D * e * e + D * e := Nat.add_lt_add_left h3 _
      _ = (ya * cc + D * e) * e + D * e := by ring

/-- `⌊(m·e + ρ)/(D·e)⌋` for `ρ < D`: split `m = D·⌊m/D⌋ + σ`; what is left, `σ·e + ρ`, is below
`2·D·e` -/
theorem div_window {m D e ρ : Nat} (hD : 0 < D) (he : 0 < e) (hρ : ρ < D) :
    (m * e + ρ) / (D * e) = m / D + if D * e ≤ m % D * e + ρ then 1 else 0 := by
  have hσ : m % D * e + e ≤ D * e := Nat.succ_mul _ e ▸ Nat.mul_le_mul_right e (Nat.mod_lt m hD)
  have hE : D * 1 ≤ D * e := Nat.mul_le_mul_left D he
  have hsplit : m * e + ρ = (m % D * e + ρ) + m / D * (D * e) := by
    conv_lhs => rw [← Nat.div_add_mod m D]
    ring
  rw [hsplit, Nat.add_mul_div_right _ _ (Nat.mul_pos hD he), Nat.add_comm]
  congr 1
  split
  · exact Nat.div_eq_of_lt_le (by omega) (by omega)
  · exact Nat.div_eq_of_lt (by omega)

/-- `n·(x+a) ≤ y·a` in reserve form -/
theorem product_le {x y a n : Nat} (h : n * (x + a) ≤ y * a) : x * y ≤ (x + a) * (y - n) := by
  rw [Nat.mul_sub, Nat.add_mul x a y, Nat.mul_comm (x + a) n, Nat.mul_comm a y]
  omega

/-- closed form of the gross output -/
def G (x y a : Nat) : Nat := (y * a * E + x * y * E % (x + a)) / ((x + a) * E)

/-- the decimal difference `y·E − ⌊x·y·E/(x+a)⌋` is `y·a·E/(x+a)` rounded up, so the gross
output has a closed form -/
theorem gross_eq {x y a : Nat} (hD : 0 < x + a) :
    (y * E - x * y * E / (x + a)) / E = G x y a := by
  rw [sub_div_eq hD (R := y * a * E) (by ring), Nat.div_div_eq_div_mul, G]

theorem ideal_eq (m x : Nat) : m * E / x / E = m / x := by
  rw [Nat.div_div_eq_div_mul, Nat.mul_div_mul_right _ _ E_pos]

/-- monotonicity is read off the decimal difference, not the closed form (the remainder is not monotone) -/
theorem G_mono_offer {x y a a' : Nat} (hD : 0 < x + a) (ha : a ≤ a') : G x y a ≤ G x y a' := by
  rw [← gross_eq hD, ← gross_eq (Nat.lt_of_lt_of_le hD (Nat.add_le_add_left ha x))]
  exact Nat.div_le_div_right
    (Nat.sub_le_sub_left (Nat.div_le_div_left (Nat.add_le_add_left ha x) hD) _)

theorem G_mono_ask {x y y' a : Nat} (hD : 0 < x + a) (hy : y ≤ y') : G x y a ≤ G x y' a := by
  rw [← gross_eq hD, ← gross_eq hD]
  have hv : x * E ≤ E * (x + a) := Nat.mul_comm x E ▸ Nat.mul_le_mul_left E (Nat.le_add_right x a)
  have := mul_sub_div_mono hD hv hy
  rw [← Nat.mul_assoc, ← Nat.mul_assoc, Nat.mul_comm y x, Nat.mul_comm y' x] at this
  exact Nat.div_le_div_right this

/-- the closed form is `⌊y·a/(x+a)⌋`, plus one exactly on the window -/
theorem G_window {x y a : Nat} (hD : 0 < x + a) :
    G x y a = y * a / (x + a) + (if inWindow x y a then 1 else 0) := by
  simp only [G, inWindow, decide_eq_true_eq]
  exact div_window hD E_pos (Nat.mod_lt _ hD)

/-- the window is empty for shallow pools.  The hypothesis `0 < x + a` cannot be dropped:
`inWindow 0 y 0 = true` (both remainders are `_ % 0`, and `0 * E ≤ 0`). -/
theorem window_needs_depth {x y a : Nat} (hD : 0 < x + a) (h : inWindow x y a = true) :
    E < x + a := by
  simp only [inWindow, decide_eq_true_eq] at h
  have hρ := Nat.mod_lt (x * y * E) hD
  have hσ : (y * a % (x + a) + 1) * E ≤ (x + a) * E := Nat.mul_le_mul_right _ (Nat.mod_lt _ hD)
  rw [Nat.add_mul] at hσ
  omega

/-- What a successful `compute_swap` passed (the first seven fields; the other checks of the source follow from them)
and what it returned, with the gross output `G x y a` and the ideal output `⌊y·a/x⌋`. -/
structure SwapOK (x y a c n s k : Nat) : Prop where
  offer_pool : x ≠ 0
  sum_fits : x + a < U
  product_fits : x * y * E < U
  ideal_fits : y * a * E < U
  gross_le_ideal : G x y a ≤ y * a / x
  comm_fits : G x y a * c < U
  comm_le_gross : G x y a * c / E ≤ G x y a
  net : n = G x y a - G x y a * c / E
  spread : s = y * a / x - G x y a
  comm : k = G x y a * c / E
  net_lt : n < W
  spread_lt : s < W
  comm_lt : k < W

theorem computeSwap_ok {x y a c n s k : Nat} :
    computeSwap x y a c = .ok (n, s, k) ↔ SwapOK x y a c n s k := by
  unfold computeSwap
  -- the `do` block becomes the conjunction of its checks in source order, each bound value
  -- substituted; only the three narrowings `toU128` stay (their inversion needs a bound)
  simp only [bind_ok_iff, Uint.mul_ok, Dec.fromUint_ok, Uint.add_ok, Dec.fromRatio_ok, Dec.sub_ok,
    Uint.mulDec_ok, Uint.sub_ok, pure_ok_iff, Prod.mk.injEq, Nat.one_mul, and_assoc,
    exists_and_left, exists_eq_left]
  have hD : x ≠ 0 → 0 < x + a := fun hx => Nat.add_pos_left (Nat.pos_of_ne_zero hx) a
  constructor
  · rintro ⟨-, -, hxa, -, h1, -, hd, -, hx, h2, hr, h3, h4, h5, n', hn, s', hs, k', hk, rfl, rfl, rfl⟩
    have hg := Nat.div_lt_of_lt (b := E) hd
    have hi := Nat.div_lt_of_lt (b := E) hr
    obtain ⟨hnW, rfl⟩ := (toU128_ok (Nat.lt_of_le_of_lt (Nat.sub_le _ _) hg)).1 hn
    obtain ⟨hsW, rfl⟩ := (toU128_ok (Nat.lt_of_le_of_lt (Nat.sub_le _ _) hi)).1 hs
    obtain ⟨hkW, rfl⟩ := (toU128_ok (Nat.div_lt_of_lt h4)).1 hk
    rw [gross_eq (hD hx), ideal_eq] at *
    exact ⟨hx, hxa, h1, h2, h3, h4, h5, rfl, rfl, rfl, hnW, hsW, hkW⟩
  · rintro ⟨hx, hxa, h1, h2, h3, h4, h5, rfl, rfl, rfl, hn, hs, hk⟩
    have hxy : x * y < U := lt_of_mul_lt E_pos h1
    have hya : y * a < U := lt_of_mul_lt E_pos h2
    have hyU : y * E < U := by
      refine Nat.lt_of_le_of_lt ?_ h1
      rw [Nat.mul_assoc]
      exact Nat.le_mul_of_pos_left _ (Nat.pos_of_ne_zero hx)
    have hq : x * y * E / (x + a) ≤ y * E := by
      apply Nat.div_le_of_le_mul
      rw [Nat.mul_assoc]
      exact Nat.mul_le_mul_right _ (Nat.le_add_right x a)
    rw [gross_eq (hD hx), ideal_eq]
    exact ⟨hxy, hyU, hxa, (hD hx).ne', h1, hq, Nat.lt_of_le_of_lt (Nat.sub_le _ _) hyU, hya,
      hx, h2, Nat.div_lt_of_lt h2, h3, h4, h5,
      _, (toU128_ok (Nat.lt_trans hn W_lt_U)).2 ⟨hn, rfl⟩,
      _, (toU128_ok (Nat.lt_trans hs W_lt_U)).2 ⟨hs, rfl⟩,
      _, (toU128_ok (Nat.lt_trans hk W_lt_U)).2 ⟨hk, rfl⟩, rfl, rfl, rfl⟩

theorem pos_of_ok {x y a c n s k : Nat} (h : computeSwap x y a c = .ok (n, s, k)) : 0 < x + a :=
  Nat.add_pos_left (Nat.pos_of_ne_zero (computeSwap_ok.mp h).offer_pool) a

theorem gross_closed_form {x y a c n s k : Nat}
    (h : computeSwap x y a c = .ok (n, s, k)) :
    n + k = (y * a * E + x * y * E % (x + a)) / ((x + a) * E) := by
  have H := computeSwap_ok.mp h
  rw [H.net, H.comm]
  exact Nat.sub_add_cancel H.comm_le_gross

theorem gross_window {x y a c n s k : Nat}
    (h : computeSwap x y a c = .ok (n, s, k)) :
    n + k = y * a / (x + a) + (if inWindow x y a then 1 else 0) := by
  rw [gross_closed_form h]
  exact G_window (pos_of_ok h)

theorem c01_of_le {x y a n : Nat} (hx : x ≠ 0) (hn : n ≤ y * a / (x + a)) :
    Spec.c01 x y a n = true := by
  have hD : 0 < x + a := by omega
  simp only [Spec.c01, Bool.and_eq_true, Bool.or_eq_true, decide_eq_true_eq]
  refine ⟨(Nat.le_div_iff_mul_le hD).1 hn, ?_⟩
  rcases Nat.eq_zero_or_pos y with hy | hy
  · exact Or.inl hy
  · refine Or.inr (Nat.lt_of_le_of_lt hn ((Nat.div_lt_iff_lt_mul hD).2 ?_))
    exact (Nat.mul_lt_mul_left hy).2 (by omega)

theorem c01_of_not_window {x y a c n s k : Nat}
    (h : computeSwap x y a c = .ok (n, s, k)) (hw : inWindow x y a = false) :
    Spec.c01 x y a n = true := by
  have hg := gross_window h
  rw [hw] at hg
  exact c01_of_le (computeSwap_ok.mp h).1 (Nat.le.intro hg)

theorem c01_of_shallow {x y a c n s k : Nat}
    (h : computeSwap x y a c = .ok (n, s, k)) (hd : x + a ≤ E) :
    Spec.c01 x y a n = true :=
  c01_of_not_window h (by
    cases hw : inWindow x y a
    · rfl
    · exact absurd (window_needs_depth (pos_of_ok h) hw) (by omega))

theorem c01_of_commission {x y a c n s k : Nat}
    (h : computeSwap x y a c = .ok (n, s, k)) (hk : 1 ≤ k) :
    Spec.c01 x y a n = true := by
  have hg := gross_window h
  refine c01_of_le (computeSwap_ok.mp h).1 ?_
  split at hg <;> omega

theorem violation_is_window {x y a c n s k : Nat}
    (h : computeSwap x y a c = .ok (n, s, k)) (hv : Spec.c01 x y a n = false) :
    inWindow x y a = true ∧ n + k = y * a / (x + a) + 1 := by
  cases hw : inWindow x y a
  · rw [c01_of_not_window h hw] at hv; exact absurd hv (by decide)
  · have hg := gross_window h
    rw [hw] at hg
    exact ⟨rfl, hg⟩

/-- outside the window a swap does not lower the reserve product and does not empty the ask reserve -/
theorem reserves_of_not_window {x y a c n s k : Nat}
    (h : computeSwap x y a c = .ok (n, s, k)) (hw : inWindow x y a = false) :
    x * y ≤ (x + a) * (y - n) ∧ (0 < y → 0 < y - n) := by
  have hc := c01_of_not_window h hw
  simp only [Spec.c01, Bool.and_eq_true, Bool.or_eq_true, decide_eq_true_eq] at hc
  exact ⟨product_le hc.1, by omega⟩

theorem c01Reserves_of_not_window {x y a c n s k : Nat}
    (h : computeSwap x y a c = .ok (n, s, k)) (hw : inWindow x y a = false) (hy : 1 ≤ y) :
    Spec.c01Reserves x y (x + a) (y - n) = true := by
  simp only [Spec.c01Reserves, Bool.and_eq_true, decide_eq_true_eq]
  exact (reserves_of_not_window h hw).imp_right (· hy)

theorem c06_of_ok {x y a c n s k : Nat}
    (h : computeSwap x y a c = .ok (n, s, k)) (hc : c ≤ E) :
    Spec.c06 x y a c n s k = true := by
  have H := computeSwap_ok.mp h
  have hD := pos_of_ok h
  have hlo : y * a / (x + a) ≤ G x y a := by rw [G_window hD]; exact Nat.le_add_right _ _
  have hb := bracket E_pos hD (Nat.add_sub_cancel' hc) (Nat.mod_lt (x * y * E) hD) hlo
    (Nat.div_mul_le_self _ _)
  have hnk : n + k = G x y a := gross_closed_form h
  simp only [Spec.c06, Bool.and_eq_true, decide_eq_true_eq, hnk]
  rw [H.net, H.spread, H.comm]
  exact ⟨⟨⟨rfl, Nat.add_sub_cancel' H.gross_le_ideal⟩, hb.2⟩, hb.1⟩

theorem computeSwap_ok_iff {x y a c : Nat} (hx : x < W) (_hy : y < W) (ha : a < W) :
    (∃ r, computeSwap x y a c = .ok r) ↔
      x ≠ 0 ∧ x * y * E < U ∧ y * a * E < U ∧
      (let G := (y * a * E + x * y * E % (x + a)) / ((x + a) * E)
       G ≤ y * a / x ∧ G * c < U ∧ G * c / E ≤ G ∧ y * a / x - G < W ∧ G - G * c / E < W ∧ G * c / E < W) := by
  have hxa : x + a < U := by
    have : W + W ≤ U := by decide
    omega
  constructor
  · rintro ⟨⟨n, s, k⟩, h⟩
    obtain ⟨h0, -, h1, h2, h3, h4, h5, rfl, rfl, rfl, h6, h7, h8⟩ := computeSwap_ok.mp h
    exact ⟨h0, h1, h2, h3, h4, h5, h7, h6, h8⟩
  · rintro ⟨h0, h1, h2, h3, h4, h5, h7, h6, h8⟩
    exact ⟨_, computeSwap_ok.mpr ⟨h0, hxa, h1, h2, h3, h4, h5, rfl, rfl, rfl, h6, h7, h8⟩⟩

end Halo.C01
