/-
C02A proofs — swap settlement for a general coin list: what `attach` moves when the funds name each denom once
(`attach_effect`, from `attach_bal`), that the native offer of a swap was delivered with the funds
(`swap_native_delivered`), and a swap whose recipient is the pair itself (`swap_to_self`: the payment is from the pair to
the pair, so no balance changes).  Statements live in `Halo/Props/C02A.lean`; the names are in namespace `CallSites`.
-/
import Halo.Proofs.C02
import Halo.Proofs.C14
import Halo.Proofs.Funds

namespace Halo.CallSites

theorem attach_effect {w w0 : World} {s p : Nat} {funds : List (Nat × Nat)} (hsp : s ≠ p)
    (hnd : (funds.map (·.1)).Nodup) (h : attach w s p funds = .ok w0) :
    (∀ d, bal w0 (.native d) p = bal w (.native d) p + coinOf funds d) ∧
    (∀ d, bal w0 (.native d) s + coinOf funds d = bal w (.native d) s) ∧
    (∀ d z, z ≠ s → z ≠ p → bal w0 (.native d) z = bal w (.native d) z) ∧
    (∀ t z, bal w0 (.token t) z = bal w (.token t) z) := by
  have B := attach_bal hsp h
  simp only [coinSum_eq_coinOf _ hnd] at B
  exact B

theorem swap_native_delivered {w w' : World} {s p d amt : Nat} {funds : List (Nat × Nat)}
    {b ms toAddr : Option Nat} {out : Out} (hsp : s ≠ p) (hnd : (funds.map (·.1)).Nodup)
    (h : pairExec w s p funds (.swap (.native d) amt b ms toAddr) = .ok (w', out)) :
    ∃ P w0 o, w.pair p = some P ∧ attach w s p funds = .ok w0 ∧
      pairSwap w0 p P funds s (.native d) amt b ms toAddr = .ok (w', o) ∧ out = .swap o ∧
      coinOf funds d = amt ∧
      bal w0 (.native d) p = bal w (.native d) p + amt ∧
      bal w0 (.native d) s + amt = bal w (.native d) s := by
  have hc : coinOf funds d = amt := c09_iff_coinOf.mp (Halo.C14.swap_native_exact h)
  obtain ⟨P, w0, o, hP, h0, hs, rfl⟩ := C02.pairExec_swap_ok h
  obtain ⟨A1, A2, _, _⟩ := attach_effect hsp hnd h0
  exact ⟨P, w0, o, hP, h0, hs, rfl, hc, hc ▸ A1 d, hc ▸ A2 d⟩

theorem swap_to_self {w0 w' : World} {p : Nat} {P : PairSt} {funds : List (Nat × Nat)} {trader : Nat}
    {offer : Asset} {amt : Nat} {b ms toAddr : Option Nat} {o : SwapOut}
    (hself : toAddr.getD trader = p)
    (h : pairSwap w0 p P funds trader offer amt b ms toAddr = .ok (w', o)) :
    (∀ a z, bal w' a z = bal w0 a z) ∧ (∀ t, supply w' t = supply w0 t) := by
  have pd := pairSwap_paid h
  rw [hself] at pd
  exact ⟨fun a z => Nat.add_right_cancel (pd.add a z), pd.supply⟩

theorem exec_swap_to_self {w w' : World} {s p d amt : Nat} {funds : List (Nat × Nat)}
    {b ms toAddr : Option Nat} {out : Out} (hself : toAddr.getD s = p)
    (h : pairExec w s p funds (.swap (.native d) amt b ms toAddr) = .ok (w', out)) :
    ∃ P w0 o, w.pair p = some P ∧ attach w s p funds = .ok w0 ∧ out = .swap o ∧
      bal w' o.ask p = bal w0 o.ask p ∧
      (∀ a z, bal w' a z = bal w0 a z) ∧ (∀ t, supply w' t = supply w0 t) := by
  obtain ⟨P, w0, o, hP, h0, hs, rfl⟩ := C02.pairExec_swap_ok h
  obtain ⟨e1, e2⟩ := swap_to_self hself hs
  exact ⟨P, w0, o, hP, h0, rfl, e1 _ _, e1, e2⟩

theorem hook_swap_to_self {w w' : World} {t u p amt a : Nat} {offer : Asset}
    {b ms toAddr : Option Nat} {out : Out} (hself : toAddr.getD u = p)
    (h : tokSendPair w t u p amt (.swap offer a b ms toAddr) = .ok (w', out)) :
    ∃ P w0 o, w.pair p = some P ∧ tokTransfer w t u p amt = .ok w0 ∧ out = .swap o ∧
      bal w' o.ask p = bal w0 o.ask p ∧
      (∀ x z, bal w' x z = bal w0 x z) ∧ (∀ v, supply w' v = supply w0 v) := by
  obtain ⟨P, w0, o, hP, htr, hsw, ho, -⟩ := C02.tokSendPair_swap_ok h
  obtain ⟨e1, e2⟩ := swap_to_self hself hsw
  exact ⟨P, w0, o, hP, htr, ho, e1 _ _, e1, e2⟩

end Halo.CallSites
