/-
The allowance entries of the cw20 ledgers as one total lookup, `C07.allowOf`, and what rewriting a token's state
(`setTok`) does to it: nothing, when the allowance table is kept; to one owner's entries only, when one entry is rewritten.
Core Lean only.
-/
import Halo.World

namespace Halo

/-- total version of an allowance lookup: `none` for an unknown token -/
def C07.allowOf (w : World) (t o s : Nat) : Option Nat :=
  match w.tok t with
  | some T => T.allow o s
  | none => none

open C07 (allowOf)

theorem allowOf_of_tok {w : World} {t : Nat} {T : Token} (h : w.tok t = some T) (o s : Nat) :
    allowOf w t o s = T.allow o s := by
  simp only [allowOf, h]

theorem allowOf_of_tok_eq {w w' : World} (h : w'.tok = w.tok) (t o s : Nat) : allowOf w' t o s = allowOf w t o s := by
  simp only [allowOf, h]

theorem noNew_of_eq {w w' : World} (h : ∀ t o s, allowOf w' t o s = allowOf w t o s) (t o s : Nat)
    (e : allowOf w t o s = none) : allowOf w' t o s = none :=
  (h t o s).trans e

theorem allowOf_setTok (w : World) (t : Nat) (T' : Token) (u o s : Nat) :
    allowOf (setTok w t T') u o s = if u = t then T'.allow o s else allowOf w u o s := by
  by_cases hu : u = t
  · simp [allowOf, setTok, hu]
  · simp [allowOf, setTok, hu]

/- In the three lemmas below the equation for `T'.allow` comes last: Lean then knows `T'` from the goal when it reaches it. -/

theorem allowOf_upd_same {w : World} {t : Nat} {T : Token} (hT : w.tok t = some T) (T' : Token) (u o s : Nat)
    (hA : T'.allow = T.allow) : allowOf (setTok w t T') u o s = allowOf w u o s := by
  rw [allowOf_setTok]
  split
  · rw [‹u = t›, hA, allowOf_of_tok hT]
  · rfl

/-- one entry `(owner, sp)` of the token's allowance table rewritten: the entries of other owners stay -/
theorem allowOf_upd_ne {w : World} {t : Nat} {T : Token} (hT : w.tok t = some T) (T' : Token) {owner sp : Nat}
    {v : Option Nat} (u : Nat) {o : Nat} (s : Nat) (ho : o ≠ owner)
    (hA : T'.allow = fun o s => if o = owner ∧ s = sp then v else T.allow o s) :
    allowOf (setTok w t T') u o s = allowOf w u o s := by
  rw [allowOf_setTok]
  split
  · rw [‹u = t›, hA, allowOf_of_tok hT]
    exact if_neg fun e => ho e.1
  · rfl

/-- … and when the entry existed, no entry appears -/
theorem allowOf_upd_noNew {w : World} {t : Nat} {T : Token} (hT : w.tok t = some T) (T' : Token) {owner sp al : Nat}
    {v : Option Nat} (hal : T.allow owner sp = some al) (u o s : Nat) (e : allowOf w u o s = none)
    (hA : T'.allow = fun o s => if o = owner ∧ s = sp then v else T.allow o s) :
    allowOf (setTok w t T') u o s = none := by
  rw [allowOf_setTok]
  split
  · rw [‹u = t›, allowOf_of_tok hT] at e
    rw [hA]
    dsimp only at e ⊢
    split
    · rename_i hc
      rw [hc.1, hc.2, hal] at e
      cases e
    · exact e
  · exact e

end Halo
