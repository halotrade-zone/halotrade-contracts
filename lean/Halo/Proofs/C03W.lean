/-
C03 at system level — proofs.  Every operation of an external actor preserves the invariant `PairInv` and
either leaves the share value `reserve0·reserve1/S²` of the pair non-decreasing or performs an in-window swap
on it (`step_nondecr`); histories (`history_nondecr`); C01 at system level (`swap_product`).  Statements live in
`Halo/Props/C03W.lean`.

An operation that does not run the pair contract (`Runs`) is a flow in which the pair neither pays nor mints
(`exec_tr`, `passive_view`).  The others are looked at one by one (`view_cases`): swaps on the pair (`pairSwap_grow`),
routes hop by hop (`hops_view`, `route_view`), provision, and a cw20 `Send` / `SendFrom` once the tokens have moved
(`delivered_view`: the hook goes to the pair, `hook_view`, or starts a route).  The equations of `swapsOn`, `hopTrace`,
`PairSt.other` are in `SwapsOn.lean`.
-/
import Halo.Inv
import Halo.Proofs.C02
import Halo.Proofs.Flows
import Halo.Proofs.Funds
import Halo.Proofs.Liquidity
import Halo.Proofs.Allow
import Halo.Proofs.C03
import Halo.Proofs.Runs
import Halo.Proofs.SwapsOn

namespace Halo.C03W
open Halo.Flows

/-- the product of two reserves does not decrease and positive reserves stay positive -/
def Grow (u v u' v' : Nat) : Prop := u * v ≤ u' * v' ∧ (0 < u → 0 < v → 0 < u' ∧ 0 < v')

theorem Grow.refl (u v : Nat) : Grow u v u v := ⟨Nat.le_refl _, fun a b => ⟨a, b⟩⟩

theorem Grow.trans {a b c d e f : Nat} (h1 : Grow a b c d) (h2 : Grow c d e f) : Grow a b e f :=
  ⟨Nat.le_trans h1.1 h2.1, fun x y => h2.2 (h1.2 x y).1 (h1.2 x y).2⟩

theorem Grow.swap {u v u' v' : Nat} (h : Grow u v u' v') : Grow v u v' u' :=
  ⟨by rw [Nat.mul_comm v u, Nat.mul_comm v' u']; exact h.1, fun a b => ⟨(h.2 b a).2, (h.2 b a).1⟩⟩

theorem Grow.of_le {u v u' v' : Nat} (h0 : u ≤ u') (h1 : v ≤ v') : Grow u v u' v' :=
  ⟨Nat.mul_le_mul h0 h1, fun a b => ⟨by omega, by omega⟩⟩

theorem grow_nondecr {r0 r1 S r0' r1' S' : Nat} (g : Grow r0 r1 r0' r1') (hle : S' ≤ S) (hpos : 0 < S → 0 < S') :
    NonDecr (r0, r1, S) (r0', r1', S') := by
  rw [C03.nonDecr_iff]
  intro hS
  exact ⟨hpos hS, Nat.mul_le_mul g.1 (Nat.mul_le_mul hle hle)⟩

/-- an out-of-window swap, seen from reserves `u, v` below the pricing inputs to reserves `u', v'` above the
handler's results -/
theorem grow_swap {x y a c n s k u v u' v' : Nat} (h : computeSwap x y a c = .ok (n, s, k))
    (hw : inWindow x y a = false) (hu : u ≤ x) (hv : v ≤ y) (hu' : x + a ≤ u') (hv' : y - n ≤ v') :
    Grow u v u' v' := by
  have key := Halo.C01.reserves_of_not_window h hw
  constructor
  · calc u * v ≤ x * y := Nat.mul_le_mul hu hv
      _ ≤ (x + a) * (y - n) := key.1
      _ ≤ u' * v' := Nat.mul_le_mul hu' hv'
  · exact fun h0 h1 => ⟨Nat.lt_of_lt_of_le h0 (Nat.le_trans hu (Nat.le_trans (Nat.le_add_right x a) hu')),
      Nat.lt_of_lt_of_le (key.2 (Nat.lt_of_lt_of_le h1 hv)) hv'⟩

/-- a swap on the pair, seen from a world `w` before the transaction whose reserves are below the pricing
inputs -/
theorem pairSwap_grow {w w0 w' : World} {p : Nat} {P : PairSt} {funds : List (Nat × Nat)} {trader : Nat}
    {offer : Asset} {amt : Nat} {b ms tt : Option Nat} {o : SwapOut}
    (hne : P.a0 ≠ P.a1) (hsw : pairSwap w0 p P funds trader offer amt b ms tt = .ok (w', o))
    (h1 : bal w offer p + amt ≤ bal w0 offer p) (h2 : bal w (P.other offer) p ≤ bal w0 (P.other offer) p) :
    Grow (bal w P.a0 p) (bal w P.a1 p) (bal w' P.a0 p) (bal w' P.a1 p) ∨
      inWindow (bal w0 offer p - amt) (bal w0 (P.other offer) p) amt = true := by
  have k := pairSwap_ok hsw
  have hk := k.ask_other
  have hcs := k.priced
  -- all a swap moves is the return, out of the pair's ask balance
  have pd := pairSwap_paid hsw
  have e1 : bal w' offer p = bal w0 offer p := by rw [pd.bal, if_neg (hk ▸ P.other_ne hne offer).symm]
  have e2 := pd.add o.ask p
  rw [if_pos ⟨rfl, rfl⟩] at e2
  rw [hk] at hcs e2
  cases hwin : inWindow (bal w0 offer p - amt) (bal w0 (P.other offer) p) amt with
  | true => exact Or.inr rfl
  | false =>
    left
    have g : Grow (bal w offer p) (bal w (P.other offer) p) (bal w' offer p) (bal w' (P.other offer) p) :=
      grow_swap hcs hwin (Nat.le_sub_of_add_le h1) h2 (by rw [e1, Nat.sub_add_cancel k.le])
        (Nat.sub_le_of_le_add (e2 ▸ Nat.le_add_right _ _))
    rcases k.side with rfl | rfl
    · rwa [P.other_a0] at g
    · rw [P.other_a1 hne] at g
      exact g.swap

/-- the same when exactly the offer was credited to the pair before the handler ran -/
theorem pairSwap_grow_exact {w w0 w' : World} {p : Nat} {P : PairSt} {funds : List (Nat × Nat)} {trader : Nat}
    {offer : Asset} {amt : Nat} {b ms tt : Option Nat} {o : SwapOut}
    (hne : P.a0 ≠ P.a1) (hsw : pairSwap w0 p P funds trader offer amt b ms tt = .ok (w', o))
    (h1 : bal w0 offer p = bal w offer p + amt) (h2 : ∀ b, b ≠ offer → bal w0 b p = bal w b p) :
    Grow (bal w P.a0 p) (bal w P.a1 p) (bal w' P.a0 p) (bal w' P.a1 p) ∨
      inWindow (bal w offer p) (bal w (P.other offer) p) amt = true := by
  have e := h2 _ (P.other_ne hne offer)
  have hw := pairSwap_grow (w := w) hne hsw (Nat.le_of_eq h1.symm) (Nat.le_of_eq e.symm)
  rwa [h1, e, Nat.add_sub_cancel] at hw

/-- one hop, seen from pair `p`: a hop on another pair only adds to `p`'s balances; a hop on `p` is a swap priced on
exactly the inputs that `hopTrace` records -/
theorem hop_view {w w' : World} {o a : Asset} {tt : Option Nat} {p : Nat} {P : PairSt}
    (hP : w.pair p = some P) (hne : P.a0 ≠ P.a1) (hpr : p ≠ w.router)
    (h : routerHop w w.router o a tt = .ok w') :
    ∃ R Q, facLookup w o a = some R ∧ w.pair R.pair = some Q ∧ (∀ t, supply w' t = supply w t) ∧
      (Grow (bal w P.a0 p) (bal w P.a1 p) (bal w' P.a0 p) (bal w' P.a1 p) ∨
        (R.pair = p ∧ inWindow (bal w o R.pair) (bal w (Q.other o) R.pair) (bal w o w.router) = true)) := by
  obtain ⟨_, R, Q, w0, so, hR, hQ, h0, hsw⟩ := routerHop_ok h
  refine ⟨R, Q, hR, hQ, fun t => by rw [supply_pairSwap hsw, supply_payout h0], ?_⟩
  by_cases hq : R.pair = p
  · subst hq
    cases hP.symm.trans hQ
    have pd := (payout_paid h0).2
    exact (pairSwap_grow_exact hne hsw (pd.credit hpr) (fun b hb => pd.other hb _)).imp_right (fun hw => ⟨rfl, hw⟩)
  · -- the router pays the pair of the hop, which pays the recipient: `p` is neither
    have l : Led (flowRoles (fun z => z = w.router ∨ z = R.pair) (fun _ => False)) w w' :=
      (payout_led (R := flowRoles _ _) h0 (.inl rfl) trivial).trans (pairSwap_led hsw (.inr rfl) trivial)
    have hk : ∀ b, bal w b p ≤ bal w' b p := fun b => l.keep b (fun e => e.elim hpr (fun e => hq e.symm))
    exact .inl (Grow.of_le (hk _) (hk _))

theorem hops_view {p : Nat} {P : PairSt} {rcv : Nat} (hne : P.a0 ≠ P.a1) (ops : List (Asset × Asset)) :
    ∀ {w w' : World}, w.pair p = some P → p ≠ w.router → routerHops w rcv ops = .ok w' →
      (∀ t, supply w' t = supply w t) ∧
      (Grow (bal w P.a0 p) (bal w P.a1 p) (bal w' P.a0 p) (bal w' P.a1 p) ∨
        ∃ t ∈ hopTrace w rcv ops, t.1 = p ∧ inWindow t.2.1 t.2.2.1 t.2.2.2 = true) := by
  induction ops with
  | nil =>
    intro w w' _ _ h
    cases h
    exact ⟨fun _ => rfl, Or.inl (Grow.refl _ _)⟩
  | cons oa rest ih =>
    obtain ⟨o, a⟩ := oa
    intro w w' hP hpr h
    obtain ⟨w1, h1, h2⟩ := routerHops_cons h
    obtain ⟨R, Q, hR, hQ, hs1, hv⟩ := hop_view hP hne hpr h1
    have s1 := (routerHop_same h1).1
    obtain ⟨hs2, hv2⟩ := ih (s1.pair ▸ hP) (s1.router ▸ hpr) h2
    rw [hopTrace_cons hR hQ h1]
    refine ⟨fun t => by rw [hs2, hs1], ?_⟩
    rcases hv with g | ⟨hq, hw⟩
    · rcases hv2 with g2 | ⟨t, ht, e⟩
      · exact Or.inl (g.trans g2)
      · exact Or.inr ⟨t, List.mem_cons_of_mem _ ht, e⟩
    · exact Or.inr ⟨_, List.mem_cons_self .., hq, hw⟩

/-- what an operation does to the pair: the reserve product grows (and the LP supply does not), or — for
operations that are not swaps — the share value does not decrease, or an in-window swap on the pair -/
def ViewRes (w w' : World) (op : Op) (p : Nat) (a0 a1 : Asset) (lp : Nat) : Prop :=
  (Grow (bal w a0 p) (bal w a1 p) (bal w' a0 p) (bal w' a1 p) ∧ supply w' lp ≤ supply w lp) ∨
  (¬ IsSwapOp op ∧ NonDecr (viewOf w p a0 a1 lp) (viewOf w' p a0 a1 lp)) ∨
  WindowedOn w op p

/-- the pair pays nothing and mints nothing -/
theorem passive_view {S Mn N : Nat → Prop} {w w' : World} {op : Op} {p : Nat} {a0 a1 : Asset} {lp : Nat}
    (hinv : PairInv w p a0 a1 lp) (tr : Tr S Mn N w w') (hS : ¬ S p) (hM : ¬ Mn p) :
    ViewRes w w' op p a0 a1 lp :=
  Or.inl ⟨Grow.of_le (tr.keep _ _ hS) (tr.keep _ _ hS), tr.supply_le hM hinv.lpLive⟩

theorem route_view {name : Asset → String} {S Mn N : Nat → Prop} {w w0 w' : World} {op : Op} {p : Nat}
    {a0 a1 : Asset} {lp : Nat} {sender : Nat} {ops : List (Asset × Asset)} {mn tt : Option Nat}
    (hinv : PairInv w p a0 a1 lp) (tr : Tr S Mn N w w0) (hS : ¬ S p) (hM : ¬ Mn p)
    (h : routerSwapOps name w0 sender ops mn tt = .ok w')
    (htrace : swapsOn w op = hopTrace w0 (tt.getD sender) ops) : ViewRes w w' op p a0 a1 lp := by
  obtain ⟨P, hP, rfl, rfl, _⟩ := hinv.pair
  -- `Tr` keeps the assets of a pair state, not the state
  obtain ⟨P0, hP0, f0, f1, _⟩ := tr.stat.pairSome p P hP
  have hh := routerSwapOps_hops h
  obtain ⟨hs, hv⟩ := hops_view (f0 ▸ f1 ▸ hinv.distinct) _ hP0 (tr.stat.router ▸ hinv.pNotRouter) hh
  rw [f0, f1] at hv
  rcases hv with g | ⟨t, ht, e⟩
  · exact Or.inl ⟨(Grow.of_le (tr.keep _ _ hS) (tr.keep _ _ hS)).trans g,
      by rw [hs]; exact tr.supply_le hM hinv.lpLive⟩
  · exact Or.inr (Or.inr ⟨t, by rw [htrace]; exact ht, e⟩)

/-- one pair asset through a provision, from before the transaction (`w`) over the handler's entry (`w0`, attached funds
credited) to its end (`w1`): the reserve the share is computed from is at least the reserve before the transaction, and
the deposit is added to it -/
theorem provide_side {w w0 w1 : World} {s p : Nat} {funds : List (Nat × Nat)}
    (h0 : attach w s p funds = .ok w0) (hsp : s ≠ p) (a : Asset) (d : Nat)
    (hc : ∀ dd, a = .native dd → Spec.c09 dd d funds = true) (hn : ∀ dd, a = .native dd → bal w1 a p = bal w0 a p)
    (ht : ∀ t, a = .token t → bal w1 a p = bal w0 a p + d) :
    bal w a p ≤ netPool a (bal w0 a p) d ∧ bal w1 a p = netPool a (bal w0 a p) d + d := by
  cases a with
  | native dd =>
    have hcr : bal w (.native dd) p + d ≤ bal w0 (.native dd) p :=
      CallSites.c09_iff_coinOf.mp (hc dd rfl) ▸ attach_credit h0 hsp dd
    exact ⟨Nat.le_sub_of_add_le hcr,
      (hn dd rfl).trans (Nat.sub_add_cancel (Nat.le_trans (Nat.le_add_left _ _) hcr)).symm⟩
  | token t => exact ⟨Nat.le_of_eq ((attach_bal hsp h0).2.2.2 t p).symm, ht t rfl⟩

theorem provide_view {w w' : World} {s p : Nat} {funds : List (Nat × Nat)} {as0 as1 : Asset} {am0 am1 : Nat}
    {tol rcv : Option Nat} {out : Out} {a0 a1 : Asset} {lp : Nat}
    (hinv : PairInv w p a0 a1 lp) (hsp : s ≠ p)
    (h : pairExec w s p funds (.provide as0 am0 as1 am1 tol rcv) = .ok (w', out)) :
    NonDecr (viewOf w p a0 a1 lp) (viewOf w' p a0 a1 lp) := by
  obtain ⟨P, hP, rfl, rfl, rfl⟩ := hinv.pair
  by_cases hS : supply w P.lp = 0
  · exact fun hpos => absurd hS (Nat.ne_of_gt hpos)
  obtain ⟨P', w0, hP', h0, w1, sh, h1, he⟩ := pairExec_ok h
  cases hP.symm.trans hP'
  cases he
  have hSeq := supply_attach h0 P.lp
  have hS0 : supply w0 P.lp ≠ 0 := hSeq ▸ hS
  obtain ⟨d0, d1, D, hshare, X⟩ := Liquidity.provide_effect hsp hinv.distinct hinv.notLp0 hinv.notLp1 h1
  have hr := Liquidity.lpReserved_of_ne hS0
  have hsup := X.supply P.lp
  rw [if_pos rfl, hr] at hsup
  rw [hr] at hshare
  obtain ⟨i0, j0⟩ := provide_side h0 hsp P.a0 d0 D.sent0 (fun dd e => X.nat0 dd e p) (fun t e => (X.tok0 t e).2)
  obtain ⟨i1, j1⟩ := provide_side h0 hsp P.a1 d1 D.sent1 (fun dd e => X.nat1 dd e p) (fun t e => (X.tok1 t e).2)
  -- the attached funds first raise the reserves (at the old supply), then the provision adds deposits and share
  show NonDecr (bal w P.a0 p, bal w P.a1 p, supply w P.lp) (bal w' P.a0 p, bal w' P.a1 p, supply w' P.lp)
  rw [← hSeq, j0, j1, hsup]
  exact C03.nonDecr_trans (C03.swap_nondecr (Nat.mul_le_mul i0 i1)) (C03.lpShare_nondecr hS0 hshare)

theorem provide_reserved {w w' : World} {s p : Nat} {funds : List (Nat × Nat)} {as0 as1 : Asset} {am0 am1 : Nat}
    {tol rcv : Option Nat} {out : Out} {P : PairSt} (hP : w.pair p = some P) (hS : supply w P.lp = 0)
    (h : pairExec w s p funds (.provide as0 am0 as1 am1 tol rcv) = .ok (w', out)) :
    1 ≤ bal w' (.token P.lp) P.lp := by
  obtain ⟨P', w0, hP', h0, w1, sh, h1, he⟩ := pairExec_ok h
  cases hP.symm.trans hP'
  cases he
  obtain ⟨_, _, _, w2, M, -⟩ := Liquidity.provide_mints h1
  rw [M, if_pos ⟨rfl, rfl⟩, (supply_attach h0 _).trans hS]
  exact Nat.le_trans (Nat.le_add_left 1 _) (Nat.le_add_right _ _)

theorem receive_fails {w : World} {s p : Nat} {funds : List (Nat × Nat)} {from_ amount : Nat} {hk : Hook}
    {r : World × Out} {a0 a1 : Asset} {lp : Nat} (hinv : PairInv w p a0 a1 lp) (hat : (w.tok s).isNone)
    (h : pairExec w s p funds (.receive from_ amount hk) = .ok r) : False := by
  obtain ⟨P, hP, e0, e1, e2⟩ := hinv.pair
  obtain ⟨P', w0, hP', h0, h1⟩ := pairExec_ok h
  obtain ⟨P'', hP'', k⟩ := C14.pairReceive_auth h1
  cases hP.symm.trans ((congrFun (attach_same h0).pair p).symm.trans hP'')
  -- the hook is accepted only from a cw20 contract: one of the pair's assets, or its LP token
  have hlive : (w.tok s).isSome := by
    cases hk with
    | swap offer amt b ms tt =>
      exact k.1.elim (fun e => hinv.live0 s (e0.symm.trans e)) (fun e => hinv.live1 s (e1.symm.trans e))
    | withdraw =>
      obtain ⟨T, hT, _⟩ := hinv.lpLive
      rw [show s = P.lp from k, e2, hT]
      rfl
    | routerOps ops mn tt => exact k.elim
    | garbage => exact k.elim
  rw [Option.isNone_iff_eq_none.mp hat] at hlive
  cases hlive

theorem direct_swap_view {w w' : World} {s p : Nat} {funds : List (Nat × Nat)} {offer : Asset} {amt : Nat}
    {b ms tt : Option Nat} {out : Out} {a0 a1 : Asset} {lp : Nat}
    (hinv : PairInv w p a0 a1 lp) (hsp : s ≠ p)
    (h : pairExec w s p funds (.swap offer amt b ms tt) = .ok (w', out)) :
    ViewRes w w' (.pair s p funds (.swap offer amt b ms tt)) p a0 a1 lp := by
  obtain ⟨P, hP, rfl, rfl, rfl⟩ := hinv.pair
  obtain ⟨P', w0, hP', h0, d, w1, o, rfl, _, hsw, he⟩ := pairExec_ok h
  cases hP.symm.trans hP'
  cases he
  have hcr := attach_credit h0 hsp d
  rw [CallSites.c09_iff_coinOf.mp (C14.assertSent_native (pairSwap_ok hsw).sent rfl)] at hcr
  have tr0 : Tr (· = s) (fun _ => False) (fun _ => False) w w0 := attach_tr h0
  rcases pairSwap_grow (w := w) hinv.distinct hsw hcr (tr0.keep _ _ (fun e => hsp e.symm)) with g | hw
  · exact Or.inl ⟨g, by rw [supply_pairSwap hsw, supply_attach h0]⟩
  · exact Or.inr (Or.inr (.of_single (swapsOn_pairSwap h0 hP) hw))

/-- a cw20 hook delivered to the pair once `amt` of token `t` has moved to it (`w1`) from another account `o`: a `Send` by
`o`, or a `SendFrom` by a spender with `o`'s allowance (`op`, of which only the swaps it records and whether it counts as
a swap matter) -/
theorem hook_view {w w1 w' : World} {op : Op} {t o sender p amt : Nat} {hk : Hook} {out : Out} {a0 a1 : Asset}
    {lp : Nat} (hinv : PairInv w p a0 a1 lp) (hop : o ≠ p) (hol : o ≠ lp) (hsp : sender ≠ p)
    (hs1 : Same w w1) (hpd : Paid w w1 (.token t) o p amt)
    (h : pairReceive w1 p t sender amt hk = .ok (w', out))
    (hsw : ∀ P offer a b ms tt, w.pair p = some P → hk = .swap offer a b ms tt →
      swapsOn w op = [(p, bal w offer p, bal w (P.other offer) p, amt)])
    (hns : hk = .withdraw → ¬ IsSwapOp op) : ViewRes w w' op p a0 a1 lp := by
  obtain ⟨P, hP, rfl, rfl, rfl⟩ := hinv.pair
  have hP1 : w1.pair p = some P := by rw [hs1.pair]; exact hP
  cases hk with
  | swap offer a b ms tt =>
    obtain ⟨P', hP', rfl, _, rfl, _, w2, o2, hsw', he⟩ := pairReceive_swap h
    cases hP1.symm.trans hP'
    cases he
    rcases pairSwap_grow_exact hinv.distinct hsw' (hpd.credit (Ne.symm hop)) (fun b hb => hpd.other hb p) with g | hw
    · exact .inl ⟨g, by rw [supply_pairSwap hsw', hpd.supply]⟩
    · exact .inr (.inr (.of_single (hsw P (.token t) a b ms tt hP rfl) hw))
  | withdraw =>
    obtain ⟨P', hP', rfl, _, w2, x0, x1, hpw, he⟩ := pairReceive_withdraw h
    cases hP1.symm.trans hP'
    cases he
    obtain ⟨hx0, hx1, ha, -, X⟩ := Liquidity.pairWithdraw_effect hop hsp hinv.distinct hinv.notLp0 hinv.notLp1 hpd hpw
    -- the tokens sent and the reserved unit are held by different accounts, so less than the whole supply is burnt
    have hpos : 0 < supply w P.lp :=
      Nat.lt_of_lt_of_le (Nat.pos_of_ne_zero ha) (Nat.le_trans hpd.le (Liquidity.tokSumOK_holder hinv.sumOK))
    have hlt : amt < supply w P.lp :=
      Nat.lt_of_lt_of_le (Nat.lt_of_le_of_lt hpd.le (Nat.lt_add_of_pos_right (hinv.reserved hpos)))
        (Liquidity.tokSumOK_two hinv.sumOK hol)
    refine .inr (.inl ⟨hns rfl, ?_⟩)
    show NonDecr (bal w P.a0 p, bal w P.a1 p, supply w P.lp) (bal w' P.a0 p, bal w' P.a1 p, supply w' P.lp)
    rw [Nat.eq_sub_of_add_eq X.res0, Nat.eq_sub_of_add_eq X.res1, X.supply, if_pos rfl]
    exact C03.refund_nondecr hx0 hx1 hlt
  | routerOps ops mn tt => exact absurd h pairReceive_routerOps
  | garbage => exact absurd h pairReceive_garbage

/-- a cw20 `Send` by `o`, or a `SendFrom` by a spender with `o`'s allowance, that runs `p`: once `amt` of `t` has moved
from `o` to `d` (`w1`), the hook goes to `p` itself, or to the router and starts a route -/
theorem delivered_view {name : Asset → String} {w w1 w' : World} {op : Op} {t o sender d p amt : Nat} {hk : Hook}
    {out : Out} {a0 a1 : Asset} {lp : Nat} (hinv : PairInv w p a0 a1 lp) (hop : o ≠ p) (hol : o ≠ lp)
    (hsp : sender ≠ p) (hrun : p = d ∨ (hk.isRoute = true ∧ (w.pair p).isSome))
    (hl : Led (flowRoles (· = o) (fun _ => False)) w w1) (hpd : Paid w w1 (.token t) o d amt)
    (D : Delivered name w w1 t sender d amt hk w' out)
    (hsw : ∀ P offer a b ms tt, w.pair d = some P → hk = .swap offer a b ms tt →
      swapsOn w op = [(d, bal w offer d, bal w (P.other offer) d, amt)])
    (hrt : ∀ ops mn tt, hk = .routerOps ops mn tt → (w.pair d).isNone → d = w.router →
      swapsOn w op = hopTrace w1 (tt.getD sender) ops)
    (hns : hk = .withdraw → ¬ IsSwapOp op) : ViewRes w w' op p a0 a1 lp := by
  obtain ⟨-, h2⟩ | ⟨hdn, hdr, -, h2⟩ := D
  · -- a pair accepts no route hook, so the pair the hook went to is `p`
    have hd : d = p := hrun.elim Eq.symm fun e => by
      cases hk with
      | routerOps ops mn tt => exact absurd h2 pairReceive_routerOps
      | _ => cases e.1
    cases hd
    exact hook_view hinv hop hol hsp hl.kept.toSame hpd h2 hsw hns
  · obtain ⟨ops, mn, tt, rfl, -, -, h2'⟩ := routerReceive_ok h2
    exact route_view hinv (N := fun _ => False) hl.flow (fun e => hop e.symm) id h2'
      (hrt ops mn tt rfl (Option.isSome_eq_false_iff.mp hdn) hdr)

theorem actor_ne {w : World} {op : Op} {p : Nat} {a0 a1 : Asset} {lp : Nat}
    (hinv : PairInv w p a0 a1 lp) (hv : ValidOp w op) : actorOf op ≠ p ∧ actorOf op ≠ lp := by
  obtain ⟨hap, hat, -⟩ := hv.actor
  obtain ⟨P, hP, -⟩ := hinv.pair
  obtain ⟨T, hT, -⟩ := hinv.lpLive
  refine ⟨fun e => ?_, fun e => ?_⟩
  · rw [e, hP] at hap
    cases hap
  · rw [e, hT] at hat
    cases hat

theorem not_owner_of_noAllow {name : Asset → String} {w w' : World} {op : Op} {out : Out} {z : Nat}
    (hn : ∀ t T, w.tok t = some T → ∀ s, T.allow z s = none) (h : exec name w op = .ok (w', out)) :
    z ∉ ownersOf op := fun hz => by
  obtain ⟨u, T, sp, al, hT, hal, -⟩ := Liquidity.owner_effect hz h
  cases (hn u T hT sp).symm.trans hal

theorem view_cases {name : Asset → String} {w w' : World} {op : Op} {out : Out} {p : Nat} {a0 a1 : Asset} {lp : Nat}
    (hinv : PairInv w p a0 a1 lp) (hv : ValidOp w op) (h : exec name w op = .ok (w', out)) :
    ViewRes w w' op p a0 a1 lp := by
  obtain ⟨-, hat, har, -⟩ := hv.actor
  obtain ⟨hsp, hsl⟩ := actor_ne hinv hv
  have hop : p ∉ ownersOf op := not_owner_of_noAllow (fun t T hT s => (hinv.noAllow t T hT s).1) h
  have hol : lp ∉ ownersOf op := not_owner_of_noAllow (fun t T hT s => (hinv.noAllow t T hT s).2) h
  by_cases hrun : Runs w op p
  swap
  · -- the operation does not run the pair: the pair pays nothing and mints nothing
    refine passive_view hinv (exec_tr hv.fresh h) (fun e => e.elim (fun e => hsp e.symm) (fun e => e.elim hop hrun)) ?_
    rintro ⟨s, f, as0, am0, as1, am1, tol, r, rfl⟩
    exact hrun rfl
  have hF : ¬ (fun _ : Nat => False) p := id
  have h := exec_ok h
  cases op with
  | pair s q f m =>
    cases (show p = q from hrun)
    cases m with
    | provide as0 am0 as1 am1 tol rcv => exact .inr (.inl ⟨id, provide_view hinv hsp h⟩)
    | swap offer amt b ms tt => exact direct_swap_view hinv hsp h
    | receive from_ amount hk => exact (receive_fails hinv hat h).elim
    | updateDecimals d da db =>
      obtain ⟨_, w0, _, h0, w1, h1, he⟩ := pairExec_ok h
      cases he
      have hd := pairUpdateDecimals_configOnly h1
      exact passive_view hinv (N := fun _ => False)
        ((attach_tr h0).trans (.static hd.bank hd.tok hd.stat)) (fun e => hsp e.symm) hF
  | tokSend t s d amt hk =>
    obtain ⟨w1, h1, D⟩ := tokSend_ok h
    exact delivered_view (sender := s) hinv hsp hsl hsp hrun (.xfer rfl trivial h1) (tokTransfer_paid h1) D
      (fun _ _ _ _ _ _ hP e => e ▸ swapsOn_tokSend_swap hP)
      (fun _ _ _ e hdn hdr => e ▸ swapsOn_tokSend_route hdn hdr h1)
      (fun e => by subst e; exact id)
  | tokSendFrom t sp o d amt hk =>
    obtain ⟨w1, h1, D⟩ := tokSendFrom_iff.mp h
    exact delivered_view (sender := sp) hinv (fun e => hop (List.mem_singleton.mpr e.symm))
      (fun e => hol (List.mem_singleton.mpr e.symm)) hsp hrun (.xferFrom rfl trivial h1) (tokTransferFrom_paid h1) D
      (fun _ _ _ _ _ _ hP e => e ▸ swapsOn_tokSendFrom_swap hP)
      (fun _ _ _ e hdn hdr => e ▸ swapsOn_tokSendFrom_route hdn hdr h1)
      (fun e => by subst e; exact id)
  | router s f m =>
    obtain ⟨w0, h0, h1⟩ := routerExec_ok h.1
    have tr0 : Tr (· = s) (fun _ => False) (fun _ => False) w w0 := attach_tr h0
    cases m with
    | swapOps ops mn tt => exact route_view hinv tr0 (fun e => hsp e.symm) hF h1.2 (swapsOn_swapOps h0)
    | swapOp o a tt => exact absurd (C14.router_hop_only_self h.1) har
    | assertMin a prev mn rcv => exact absurd (C14.router_assert_only_self h.1) har
    | receive from_ amount hk =>
      obtain ⟨ops, mn, tt, rfl, -, -, h1'⟩ := routerReceive_ok h1
      exact route_view hinv tr0 (fun e => hsp e.symm) hF h1' (swapsOn_routerReceive h0)
  | _ => exact hrun.elim

theorem lp_keep {name : Asset → String} {w w' : World} {op : Op} {out : Out} {p : Nat} {a0 a1 : Asset} {lp : Nat}
    (hinv : PairInv w p a0 a1 lp) (hv : ValidOp w op) (h : exec name w op = .ok (w', out)) :
    bal w (.token lp) lp ≤ bal w' (.token lp) lp :=
  Liquidity.token_kept hinv.lpNoPair hinv.lpNotRouter (fun T hT s => (hinv.noAllow lp T hT s).2) (actor_ne hinv hv).2
    hv.fresh h

/-- a positive LP supply stays positive: the reserved unit cannot be spent -/
theorem pos_step {name : Asset → String} {w w' : World} {op : Op} {out : Out} {p : Nat} {a0 a1 : Asset} {lp : Nat}
    (hinv : PairInv w p a0 a1 lp) (hv : ValidOp w op) (h : exec name w op = .ok (w', out))
    (hpos : 0 < supply w lp) : 0 < supply w' lp :=
  Nat.lt_of_lt_of_le (Nat.lt_of_lt_of_le (hinv.reserved hpos) (lp_keep hinv hv h))
    (Liquidity.tokSumOK_holder (Liquidity.tokSumOK_exec hinv.sumOK h))

theorem inv_step {name : Asset → String} {w w' : World} {op : Op} {out : Out} {p : Nat} {a0 a1 : Asset} {lp : Nat}
    (hinv : PairInv w p a0 a1 lp) (hv : ValidOp w op) (h : exec name w op = .ok (w', out)) :
    PairInv w' p a0 a1 lp := by
  have tr := exec_tr hv.fresh h
  have st := tr.stat
  obtain ⟨P, hP, e0, e1, e2⟩ := hinv.pair
  obtain ⟨T, hT, hTm⟩ := hinv.lpLive
  have live : ∀ t, (w.tok t).isSome → (w'.tok t).isSome := by
    intro t ht
    obtain ⟨U, hU⟩ := Option.isSome_iff_exists.mp ht
    obtain ⟨U', hU', _⟩ := st.toks t U hU
    rw [hU']; rfl
  exact
    { pair := by
        obtain ⟨P', hP', f0, f1, f2⟩ := st.pairSome p P hP
        exact ⟨P', hP', f0.trans e0, f1.trans e1, f2.trans e2⟩
      distinct := hinv.distinct
      notLp0 := hinv.notLp0
      notLp1 := hinv.notLp1
      lpLive := by
        obtain ⟨T', hT', hm'⟩ := st.toks lp T hT
        exact ⟨T', hT', hm'.trans hTm⟩
      live0 := fun t e => live t (hinv.live0 t e)
      live1 := fun t e => live t (hinv.live1 t e)
      sumOK := Liquidity.tokSumOK_exec hinv.sumOK h
      reserved := by
        intro hpos'
        by_cases h0 : supply w lp = 0
        · by_cases hm : MintOf op p
          · obtain ⟨s, f, as0, am0, as1, am1, tol, r, rfl⟩ := hm
            exact e2 ▸ provide_reserved hP (e2 ▸ h0) h
          · exact absurd (Nat.lt_of_lt_of_le hpos' (tr.supply_le hm hinv.lpLive)) (by rw [h0]; exact Nat.lt_irrefl 0)
        · exact Nat.le_trans (hinv.reserved (Nat.pos_of_ne_zero h0)) (lp_keep hinv hv h)
      lpNoPair := by
        -- a new pair contract is never allocated the address of a cw20 contract (`FreshOK`), so not the LP token's
        have hnew : ¬ NewOf op lp := by
          rintro ⟨s, f, x0, x1, req, c, ld, nl, rfl⟩
          cases hT.symm.trans (hv.fresh s f x0 x1 req c ld lp nl rfl).2.2
        rw [st.pairNone lp hnew (Option.isNone_iff_eq_none.mp hinv.lpNoPair)]
        rfl
      lpNotRouter := by rw [st.router]; exact hinv.lpNotRouter
      pNotRouter := by rw [st.router]; exact hinv.pNotRouter
      noAllow := by
        -- neither contract is the actor, so no allowance entry owned by them appears (`Allow.exec_noAllow`)
        obtain ⟨hpa, hla⟩ := actor_ne hinv hv
        intro t T' hT' s
        exact ⟨Allow.exec_noAllow h hpa.symm (fun t T hT s => (hinv.noAllow t T hT s).1) t T' hT' s,
          Allow.exec_noAllow h hla.symm (fun t T hT s => (hinv.noAllow t T hT s).2) t T' hT' s⟩ }

theorem step_nondecr {name : Asset → String} {w w' : World} {op : Op} {out : Out} {p : Nat} {a0 a1 : Asset} {lp : Nat}
    (hinv : PairInv w p a0 a1 lp) (hv : ValidOp w op) (h : exec name w op = .ok (w', out)) :
    PairInv w' p a0 a1 lp ∧ (NonDecr (viewOf w p a0 a1 lp) (viewOf w' p a0 a1 lp) ∨ WindowedOn w op p) := by
  refine ⟨inv_step hinv hv h, ?_⟩
  rcases view_cases hinv hv h with ⟨g, hle⟩ | ⟨_, nd⟩ | hw
  · exact Or.inl (grow_nondecr g hle (pos_step hinv hv h))
  · exact Or.inl nd
  · exact Or.inr hw

theorem stepsOK_noWindow {name : Asset → String} {p : Nat} : ∀ (ops : List Op) (w : World),
    ValidRun name w ops → NoWindowRun name p w ops →
      Reach.StepsOK name (fun w op => ValidOp w op ∧ ¬ WindowedOn w op p) w ops
  | [], _, _, _ => trivial
  | _ :: rest, _, hv, hn => ⟨⟨hv.1, hn.1⟩, stepsOK_noWindow rest _ hv.2 hn.2⟩

theorem history_nondecr {name : Asset → String} {p : Nat} {a0 a1 : Asset} {lp : Nat} (ops : List Op) (w : World)
    (hinv : PairInv w p a0 a1 lp) (hv : ValidRun name w ops) (hnw : NoWindowRun name p w ops) :
    PairInv (run name w ops) p a0 a1 lp ∧
    NonDecr (viewOf w p a0 a1 lp) (viewOf (run name w ops) p a0 a1 lp) :=
  Reach.run_induct (I := fun w' => PairInv w' p a0 a1 lp ∧ NonDecr (viewOf w p a0 a1 lp) (viewOf w' p a0 a1 lp))
    (fun _ _ _ _ hc h hi =>
      have hs := step_nondecr hi.1 hc.1 h
      ⟨hs.1, C03.nonDecr_trans hi.2 (hs.2.resolve_right hc.2)⟩)
    ops w (stepsOK_noWindow ops w hv hnw) ⟨hinv, C03.nonDecr_refl _⟩

theorem pairInv_pos_run {name : Asset → String} {p : Nat} {a0 a1 : Asset} {lp : Nat} (ops : List Op) (w : World)
    (hinv : PairInv w p a0 a1 lp) (hv : ValidRun name w ops) :
    PairInv (run name w ops) p a0 a1 lp ∧ (0 < supply w lp → 0 < supply (run name w ops) lp) :=
  Reach.validRun_preserves (I := fun w' => PairInv w' p a0 a1 lp ∧ (0 < supply w lp → 0 < supply w' lp))
    (fun _ _ _ _ hv h hi => ⟨inv_step hi.1 hv h, fun hp => pos_step hi.1 hv h (hi.2 hp)⟩) ops w hv ⟨hinv, id⟩

theorem supply_stays_positive {name : Asset → String} {p : Nat} {a0 a1 : Asset} {lp : Nat} (ops : List Op) (w : World)
    (hinv : PairInv w p a0 a1 lp) (hv : ValidRun name w ops) (hpos : 0 < supply w lp) :
    0 < supply (run name w ops) lp :=
  (pairInv_pos_run ops w hinv hv).2 hpos

/-- C01 at system level -/
theorem swap_product {name : Asset → String} {w w' : World} {op : Op} {out : Out} {p : Nat} {a0 a1 : Asset} {lp : Nat}
    (hinv : PairInv w p a0 a1 lp) (hv : ValidOp w op) (hs : IsSwapOp op) (h : exec name w op = .ok (w', out))
    (hnw : ¬ WindowedOn w op p) :
    bal w a0 p * bal w a1 p ≤ bal w' a0 p * bal w' a1 p ∧
    (0 < bal w a0 p → 0 < bal w a1 p → 0 < bal w' a0 p ∧ 0 < bal w' a1 p) := by
  rcases view_cases hinv hv h with ⟨g, _⟩ | ⟨hns, _⟩ | hw
  · exact g
  · exact absurd hs hns
  · exact absurd hw hnw

end Halo.C03W
