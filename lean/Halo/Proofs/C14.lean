/-
C14 — privileged and internal entry points reject every other caller; C09 at world level, through the characterisation
`assertSent_iff` of `Halo/Props/C09.lean`.  Core Lean only (that property file included).
-/
import Halo.Proofs.Trace
import Halo.Spec
import Halo.Props.C09
import Halo.Proofs.Runs

namespace Halo.C14

/-- the three configuration fields that handlers read for authorisation / addressing are unchanged -/
structure Keep (w w' : World) : Prop where
  owner : w'.owner = w.owner
  facAddr : w'.facAddr = w.facAddr
  router : w'.router = w.router

theorem router_hop_only_self {name : Asset → String} {w w' : World} {s : Nat} {funds : List (Nat × Nat)}
    {o a : Asset} {to : Option Nat} (h : routerExec name w s funds (.swapOp o a to) = .ok w') : s = w.router := by
  obtain ⟨w0, h0, _, h⟩ := routerExec_ok h
  exact (routerHop_ok h).1.trans (attach_same h0).router

theorem router_assert_only_self {name : Asset → String} {w w' : World} {s : Nat} {funds : List (Nat × Nat)}
    {a : Asset} {prev m rcv : Nat} (h : routerExec name w s funds (.assertMin a prev m rcv) = .ok w') :
    s = w.router := by
  obtain ⟨w0, h0, _, h1, _⟩ := routerExec_ok h
  exact (routerAssertMin_ok h1).1.trans (attach_same h0).router

theorem factory_only_owner {w w' : World} {s : Nat} {funds : List (Nat × Nat)} {m : FacMsg}
    (h : facExec w s funds m = .ok w') : s = w.owner := by
  obtain ⟨w0, h0, h⟩ := facExec_ok h
  rw [← (attach_same h0).owner]
  cases m with
  | updateConfig o tc pc => exact (facUpdateConfig_ok h).1
  | createPair a0 a1 req comm lpDec np nl => exact let ⟨_, _, k⟩ := facCreatePair_ok h; k.owner
  | addDecimals d k => exact (facAddDecimals_ok h).1
  | migratePair p c => exact (facMigratePair_ok h).1

theorem config_follows {w w' : World} {s : Nat} {funds : List (Nat × Nat)} {o tc pc : Option Nat}
    (h : facExec w s funds (.updateConfig o tc pc) = .ok w') :
    w'.owner = o.getD w.owner ∧ w'.tokenCode = tc.getD w.tokenCode ∧ w'.pairCode = pc.getD w.pairCode := by
  obtain ⟨w0, h0, h⟩ := facExec_ok h
  obtain ⟨_, _, rfl⟩ := facUpdateConfig_ok h
  obtain ⟨b, rfl⟩ := attach_bank_only h0
  exact ⟨rfl, rfl, rfl⟩

theorem ownership_follows {w w' : World} {s o : Nat} {funds : List (Nat × Nat)} {tc pc : Option Nat}
    (h : facExec w s funds (.updateConfig (some o) tc pc) = .ok w') : w'.owner = o :=
  (config_follows h).1

theorem owner_changes_only_by_owner {name : Asset → String} {w w' : World} {op : Op} {out : Out}
    (h : exec name w op = .ok (w', out)) :
    w'.owner = w.owner ∨
      ∃ s f o tc pc, op = .factory s f (.updateConfig (some o) tc pc) ∧ s = w.owner ∧ w'.owner = o := by
  obtain ⟨w0, hl, hc⟩ := exec_split h
  have k0 : w0.owner = w.owner := hl.kept.owner
  rcases cfgStep_ok hc with rfl | ⟨_, _, _, _, _, _, _, hx⟩ | ⟨_, _, _, _, _, hx⟩ | ⟨s, f, o, tc, pc, rfl, hx⟩ |
    ⟨_, _, _, _, _, _, _, _, _, _, hx⟩
  · exact .inl k0
  · obtain ⟨_, _, _, rfl⟩ := pairUpdateDecimals_ok hx
    exact .inl k0
  · obtain ⟨_, _, _, _, _, rfl⟩ := facAddDecimals_world hx
    exact .inl k0
  · obtain ⟨hs, _, rfl⟩ := facUpdateConfig_ok hx
    cases o with
    | none => exact .inl k0
    | some o => exact .inr ⟨s, f, o, tc, pc, rfl, hs.trans k0, rfl⟩
  · obtain ⟨_, _, rfl⟩ := facCreatePair_world hx
    exact .inl k0

/-! ### pair: the internal messages authenticate their sender -/

theorem pair_update_only_factory {w : World} {s p : Nat} {funds : List (Nat × Nat)} {d da db : Nat} {r : World × Out}
    (h : pairExec w s p funds (.updateDecimals d da db) = .ok r) : ∃ P, w.pair p = some P ∧ s = P.factory := by
  obtain ⟨_, w0, _, h0, w1, h1, _⟩ := pairExec_ok h
  obtain ⟨P, hP, hs, _⟩ := pairUpdateDecimals_ok h1
  exact ⟨P, (attach_same h0).pair ▸ hP, hs⟩

theorem withdraw_hook_only_lp {w : World} {s p from_ amount : Nat} {funds : List (Nat × Nat)} {r : World × Out}
    (h : pairExec w s p funds (.receive from_ amount .withdraw) = .ok r) : ∃ P, w.pair p = some P ∧ s = P.lp := by
  obtain ⟨_, w0, _, h0, h1⟩ := pairExec_ok h
  obtain ⟨P, k⟩ := pairReceive_withdraw h1
  exact ⟨P, (attach_same h0).pair ▸ k.pair, k.lp⟩

theorem swap_hook_only_pair_token {w : World} {s p from_ amount : Nat} {funds : List (Nat × Nat)}
    {offer : Asset} {amt : Nat} {b ms to : Option Nat} {r : World × Out}
    (h : pairExec w s p funds (.receive from_ amount (.swap offer amt b ms to)) = .ok r) :
    ∃ P, w.pair p = some P ∧ (P.a0 = .token s ∨ P.a1 = .token s) ∧ offer = .token s ∧ amt = amount := by
  obtain ⟨_, w0, _, h0, h1⟩ := pairExec_ok h
  obtain ⟨P, k⟩ := pairReceive_swap h1
  exact ⟨P, (attach_same h0).pair ▸ k.pair, k.asset, k.offer_eq, k.amt_eq⟩

/-- `receive_cw20` authenticates the cw20 contract `t` that delivers the hook: a swap hook comes from a cw20 asset of the
pair and offers it, in the amount sent; a withdrawal hook comes from the pair's LP token; nothing else is accepted -/
theorem pairReceive_auth {w : World} {p t from_ amount : Nat} {hk : Hook} {r : World × Out}
    (h : pairReceive w p t from_ amount hk = .ok r) :
    ∃ P, w.pair p = some P ∧
      (match hk with
       | .swap offer a _ _ _ => (P.a0 = .token t ∨ P.a1 = .token t) ∧ offer = .token t ∧ a = amount
       | .withdraw => t = P.lp
       | _ => False) := by
  cases hk with
  | swap offer a b ms to =>
    obtain ⟨P, k⟩ := pairReceive_swap h
    exact ⟨P, k.pair, k.asset, k.offer_eq, k.amt_eq⟩
  | withdraw =>
    obtain ⟨P, k⟩ := pairReceive_withdraw h
    exact ⟨P, k.pair, k.lp⟩
  | routerOps ops mn to => exact absurd h pairReceive_routerOps
  | garbage => exact absurd h pairReceive_garbage

theorem send_hook_auth {w : World} {t u p amt : Nat} {h' : Hook} {r : World × Out}
    (h : tokSendPair w t u p amt h' = .ok r) :
    ∃ P, w.pair p = some P ∧
      (match h' with
       | .swap offer a _ _ _ => (P.a0 = .token t ∨ P.a1 = .token t) ∧ offer = .token t ∧ a = amt
       | .withdraw => t = P.lp
       | _ => False) := by
  obtain ⟨w1, h1, h2⟩ := tokSendPair_ok h
  obtain ⟨P, hP, k⟩ := pairReceive_auth h2
  refine ⟨P, (tokTransfer_paid h1).kept.pair ▸ hP, ?_⟩
  -- the two `match`es are different terms (each is generalised over the hypothesis of its own theorem) until `h'` is known
  cases h' <;> exact k

theorem sendFrom_hook_auth {name : Asset → String} {w : World} {t sp o p amt : Nat} {h' : Hook} {r : World × Out}
    (hp : (w.pair p).isSome) (h : tokSendFrom name w t sp o p amt h' = .ok r) :
    ∃ P, w.pair p = some P ∧
      (match h' with
       | .swap offer a _ _ _ => (P.a0 = .token t ∨ P.a1 = .token t) ∧ offer = .token t ∧ a = amt
       | .withdraw => t = P.lp
       | _ => False) := by
  obtain ⟨w1, h1, ⟨_, h2⟩ | ⟨hd, _⟩⟩ := tokSendFrom_iff.mp h
  · obtain ⟨P, hP, k⟩ := pairReceive_auth h2
    refine ⟨P, (tokTransferFrom_paid h1).kept.pair ▸ hP, ?_⟩
    cases h' <;> exact k
  · rw [hd] at hp; cases hp

theorem garbage_hook_rejected {w : World} {s p from_ amount : Nat} {funds : List (Nat × Nat)} {r : World × Out} :
    pairExec w s p funds (.receive from_ amount .garbage) ≠ .ok r := by
  intro h
  obtain ⟨P, w0, _, _, h1⟩ := pairExec_ok h
  exact pairReceive_garbage h1

theorem execute_swap_rejects_token_offer {w : World} {s p t amt : Nat} {funds : List (Nat × Nat)}
    {b ms to : Option Nat} {r : World × Out} :
    pairExec w s p funds (.swap (.token t) amt b ms to) ≠ .ok r := by
  intro h
  obtain ⟨_, _, _, _, d, _, _, e, _⟩ := pairExec_ok h
  cases e

theorem pairExec_receive_nofunds {w : World} {s p from_ amount : Nat} {hk : Hook} (hp : (w.pair p).isSome) :
    pairExec w s p [] (.receive from_ amount hk) = pairReceive w p s from_ amount hk := by
  unfold pairExec
  cases hP : w.pair p with
  | none => rw [hP] at hp; cases hp
  | some P => rfl

theorem routerExec_receive_nofunds {name : Asset → String} {w : World} {s from_ amount : Nat} {hk : Hook} :
    routerExec name w s [] (.receive from_ amount hk) = routerReceive name w from_ hk := rfl

/-- cw20 `SendFrom` is exactly: `TransferFrom` by the spender, then the `Receive` the token contract sends to the
destination — `info.sender` = the token, `cw20_msg.sender` = the SPENDER, no funds — i.e. the very message the
pair / router would process had it been submitted raw by the token contract.  Every statement about a raw
`Receive` (`Op.pair t d [] (.receive …)`, `Op.router t [] (.receive …)`) therefore speaks about `SendFrom` too. -/
theorem exec_tokSendFrom_iff {name : Asset → String} {w : World} {t sp o d amt : Nat} {hk : Hook} {r : World × Out} :
    exec name w (.tokSendFrom t sp o d amt hk) = .ok r ↔
      ∃ w1, tokTransferFrom w t sp o d amt = .ok w1 ∧
        (((w.pair d).isSome ∧ exec name w1 (.pair t d [] (.receive sp amt hk)) = .ok r) ∨
         ((w.pair d).isSome = false ∧ d = w.router ∧ exec name w1 (.router t [] (.receive sp amt hk)) = .ok r)) := by
  obtain ⟨w', out⟩ := r
  refine tokSendFrom_iff.trans (exists_congr fun w1 => and_congr_right fun h1 => or_congr
    (and_congr_right fun hd => ?_) (and_congr_right fun _ => and_congr_right fun _ => ?_))
  · rw [← pairExec_receive_nofunds (by rw [(tokTransferFrom_paid h1).kept.pair]; exact hd)]
    rfl
  · show _ ↔ (routerExec name w1 t [] (.receive sp amt hk) >>= fun w' => pure (w', Out.none)) = .ok (w', out)
    rw [routerExec_receive_nofunds]
    exact ⟨fun ⟨ho, h2⟩ => ho ▸ (bind_ok_iff _ _ _).mpr ⟨w', h2, rfl⟩, fun h2 => (bind_none_ok h2).symm⟩

/-! ### C09 at world level -/

theorem assertSent_native {a : Asset} {d amt : Nat} {funds : List (Nat × Nat)} {u : Unit}
    (h : assertSent a amt funds = .ok u) (e : a = .native d) : Spec.c09 d amt funds = true := by
  subst e
  exact (Halo.Props.C09.assertSent_iff d amt funds).mp h

theorem provide_native_exact {w : World} {s p : Nat} {funds : List (Nat × Nat)}
    {as0 as1 : Asset} {am0 am1 : Nat} {tol rcv : Option Nat} {r : World × Out}
    (h : pairExec w s p funds (.provide as0 am0 as1 am1 tol rcv) = .ok r) :
    (∀ d, as0 = .native d → Spec.c09 d am0 funds = true) ∧ (∀ d, as1 = .native d → Spec.c09 d am1 funds = true) := by
  obtain ⟨P, w0, _, _, w1, sh, h1, _⟩ := pairExec_ok h
  obtain ⟨_, _, _, _, _, _, k⟩ := pairProvide_ok h1
  exact ⟨fun _ => assertSent_native k.sent0, fun _ => assertSent_native k.sent1⟩

theorem swap_native_exact {w : World} {s p d amt : Nat} {funds : List (Nat × Nat)} {b ms to : Option Nat}
    {r : World × Out} (h : pairExec w s p funds (.swap (.native d) amt b ms to) = .ok r) :
    Spec.c09 d amt funds = true := by
  obtain ⟨P, w0, _, _, _, w1, o, _, _, h1, _⟩ := pairExec_ok h
  exact assertSent_native (pairSwap_ok h1).sent rfl

theorem hook_never_native {w : World} {t u p amt d a : Nat} {b ms to : Option Nat} {r : World × Out} :
    tokSendPair w t u p amt (.swap (.native d) a b ms to) ≠ .ok r := by
  intro h
  obtain ⟨P, _, _, ho, _⟩ := send_hook_auth h
  cases ho

theorem mismatch_changes_nothing {name : Asset → String} {w : World} {s p d amt : Nat} {funds : List (Nat × Nat)}
    {b ms to : Option Nat} (hm : Spec.c09 d amt funds = false) :
    step name w (.pair s p funds (.swap (.native d) amt b ms to)) = w :=
  step_eq_of_not_ok fun r hx => by
    rw [swap_native_exact (show pairExec w s p funds (.swap (.native d) amt b ms to) = .ok r from hx)] at hm
    cases hm

theorem provide_mismatch_changes_nothing {name : Asset → String} {w : World} {s p : Nat} {funds : List (Nat × Nat)}
    {as0 as1 : Asset} {am0 am1 : Nat} {tol rcv : Option Nat}
    (hm : (∃ d, as0 = .native d ∧ Spec.c09 d am0 funds = false) ∨
          (∃ d, as1 = .native d ∧ Spec.c09 d am1 funds = false)) :
    step name w (.pair s p funds (.provide as0 am0 as1 am1 tol rcv)) = w :=
  step_eq_of_not_ok fun r hx => by
    obtain ⟨h0, h1⟩ := provide_native_exact hx
    rcases hm with ⟨d, e, hf⟩ | ⟨d, e, hf⟩
    · rw [h0 d e] at hf; cases hf
    · rw [h1 d e] at hf; cases hf

end Halo.C14
