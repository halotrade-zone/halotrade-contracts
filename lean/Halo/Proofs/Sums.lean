/-
Sums of a balance function over duplicate-free lists of accounts, under the point updates the ledger primitives make:
a credit, a debit, a move.  `sum_pointUpd` is the one identity; from it the exact forms (for lists that contain the
updated accounts: C07 conservation) and the bounded forms (`Bounded`: every duplicate-free partial sum stays under a
bound: cw20 conservation `TokSumOK`, native circulation below 2^128).  Core Lean only.
-/

namespace Halo

/-- changing `f` at the single point `c` changes the sum over a duplicate-free list by that point's change, if `c` is
in the list -/
theorem sum_pointUpd {f g : Nat → Nat} {c : Nat} (hfg : ∀ z, z ≠ c → g z = f z) :
    ∀ L : List Nat, L.Nodup →
      (L.map g).sum + (if c ∈ L then f c else 0) = (L.map f).sum + (if c ∈ L then g c else 0)
  | [], _ => by simp
  | x :: L, hn => by
    have hx : x ∉ L := (List.nodup_cons.mp hn).1
    have ih := sum_pointUpd hfg L (List.nodup_cons.mp hn).2
    by_cases hxc : x = c
    · subst hxc
      simp only [hx, if_false, Nat.add_zero] at ih
      simp only [List.map_cons, List.sum_cons, List.mem_cons, true_or, if_true, ih]
      omega
    · have hcx : c ≠ x := Ne.symm hxc
      simp only [List.map_cons, List.sum_cons, List.mem_cons, hcx, false_or, hfg x hxc]
      omega

theorem sum_congr {f g : Nat → Nat} {L : List Nat} (h : ∀ z ∈ L, g z = f z) : (L.map g).sum = (L.map f).sum := by
  rw [List.map_congr_left h]

theorem sum_add_at {f g : Nat → Nat} {x k : Nat} (hg : ∀ z, g z = if z = x then f z + k else f z)
    {L : List Nat} (hn : L.Nodup) (hx : x ∈ L) : (L.map g).sum = (L.map f).sum + k := by
  have e := sum_pointUpd (f := f) (g := g) (c := x) (fun z hz => by rw [hg, if_neg hz]) L hn
  rw [hg x] at e
  simp only [hx, if_true] at e
  omega

theorem sum_sub_at {f g : Nat → Nat} {x k : Nat} (hg : ∀ z, g z = if z = x then f z - k else f z) (hk : k ≤ f x)
    {L : List Nat} (hn : L.Nodup) (hx : x ∈ L) : (L.map g).sum + k = (L.map f).sum := by
  have e := sum_pointUpd (f := f) (g := g) (c := x) (fun z hz => by rw [hg, if_neg hz]) L hn
  rw [hg x] at e
  simp only [hx, if_true] at e
  omega

theorem sum_move {f g : Nat → Nat} {src dst amt : Nat}
    (hg : ∀ z, g z = if z = dst then (if z = src then f z - amt else f z) + amt
                     else if z = src then f z - amt else f z)
    (hle : amt ≤ f src) {L : List Nat} (hn : L.Nodup) (hs : src ∈ L) (hd : dst ∈ L) :
    (L.map g).sum = (L.map f).sum := by
  have h1 := sum_sub_at (f := f) (g := fun z => if z = src then f z - amt else f z) (fun _ => rfl) hle hn hs
  have h2 := sum_add_at (f := fun z => if z = src then f z - amt else f z) (g := g) (k := amt) (x := dst)
    (fun z => by rw [hg z]) hn hd
  omega

/-- every duplicate-free partial sum of `f` is at most `B` -/
def Bounded (f : Nat → Nat) (B : Nat) : Prop := ∀ L : List Nat, L.Nodup → (L.map f).sum ≤ B

theorem Bounded.congr {f g : Nat → Nat} {B : Nat} (hg : ∀ z, g z = f z) (h : Bounded f B) : Bounded g B :=
  fun L hL => by rw [sum_congr (fun z _ => hg z)]; exact h L hL

theorem Bounded.point {f : Nat → Nat} {B : Nat} (h : Bounded f B) (z : Nat) : f z ≤ B := by
  simpa using h [z] (List.nodup_cons.mpr ⟨List.not_mem_nil, List.nodup_nil⟩)

theorem Bounded.zero (B : Nat) : Bounded (fun _ => 0) B
  | [], _ => Nat.zero_le _
  | _ :: L, h => by simpa using Bounded.zero B L (List.nodup_cons.mp h).2

theorem Bounded.add {f g : Nat → Nat} {B dst amt : Nat} (hg : ∀ z, g z = if z = dst then f z + amt else f z)
    (h : Bounded f B) : Bounded g (B + amt) := by
  intro L hL
  by_cases hx : dst ∈ L
  · rw [sum_add_at hg hL hx]
    exact Nat.add_le_add_right (h L hL) amt
  · rw [sum_congr fun z hz => (hg z).trans (if_neg fun e : z = dst => hx (e ▸ hz))]
    exact Nat.le_trans (h L hL) (Nat.le_add_right B amt)

/-- a debit of `amt` lowers the bound by `amt`: extend the list by the debited account when it is missing -/
theorem Bounded.sub {f g : Nat → Nat} {B s amt : Nat} (hg : ∀ z, g z = if z = s then f z - amt else f z)
    (hle : amt ≤ f s) (h : Bounded f B) : Bounded g (B - amt) := by
  intro L hL
  by_cases hs : s ∈ L
  · exact Nat.le_sub_of_add_le (sum_sub_at hg hle hL hs ▸ h L hL)
  · have H := h (s :: L) (List.nodup_cons.mpr ⟨hs, hL⟩)
    rw [List.map_cons, List.sum_cons] at H
    rw [sum_congr fun z hz => (hg z).trans (if_neg fun e : z = s => hs (e ▸ hz))]
    exact Nat.le_sub_of_add_le (Nat.le_trans (Nat.add_comm _ _ ▸ Nat.add_le_add_right hle _) H)

theorem Bounded.move {f g : Nat → Nat} {B src dst amt : Nat}
    (hg : ∀ z, g z = if z = dst then (if z = src then f z - amt else f z) + amt
                     else if z = src then f z - amt else f z)
    (hle : amt ≤ f src) (h : Bounded f B) : Bounded g B := by
  have h1 : Bounded (fun z => if z = src then f z - amt else f z) (B - amt) := h.sub (fun _ => rfl) hle
  have h2 := h1.add (g := g) (dst := dst) (amt := amt) (fun z => by rw [hg])
  have : amt ≤ B := Nat.le_trans hle (h.point src)
  rwa [Nat.sub_add_cancel this] at h2

/-- a function that vanishes outside the duplicate-free list `S` is bounded by its sum over `S`: put the values back
one account at a time -/
theorem Bounded.of_support {S : List Nat} (hS : S.Nodup) {f : Nat → Nat} (h : ∀ a, a ∉ S → f a = 0) :
    Bounded f (S.map f).sum := by
  induction S generalizing f with
  | nil => exact (Bounded.zero 0).congr fun z => h z List.not_mem_nil
  | cons s S ih =>
    obtain ⟨hs, hS⟩ := List.nodup_cons.mp hS
    -- `f` is `g`, which vanishes at `s` as well, with `f s` credited at `s`
    have hg : ∀ a, a ∉ S → (if a = s then 0 else f a) = 0 := fun a ha =>
      ite_eq_left_iff.2 fun has => h a (List.not_mem_cons_of_ne_of_not_mem has ha)
    have hb := (ih hS hg).add (g := f) (dst := s) (amt := f s) fun z => by
      split
      · rw [Nat.zero_add, ‹z = s›]
      · rfl
    have e : (S.map fun a => if a = s then 0 else f a).sum = (S.map f).sum :=
      sum_congr fun z hz => if_neg fun e : z = s => hs (e ▸ hz)
    rw [e] at hb
    rw [List.map_cons, List.sum_cons, Nat.add_comm]
    exact hb

end Halo
