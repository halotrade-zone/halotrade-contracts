/-
Address validation: proofs for `Halo/Props/C02V.lean`, which says what the contracts validate where.

`exec_ok_validated` reads the checks off the handler inversions: whatever `validatedAddrs op` lists was passed through
`validAddr` / `validTo` by the handler the operation reaches, in a world that differs from the one the operation starts
in by attached funds or a cw20 transfer at most, which keep `badAddr`.  The rejections are its contrapositive (a failed
operation changes nothing: `step_eq_of_not_ok`), and each named instance is a membership in `validatedAddrs`.
-/
import Halo.Inv
import Halo.Proofs.RegOK

namespace Halo.Valid
open Halo.RegOKP

theorem pairReceive_valid {w : World} {p t from_ amount : Nat} {hk : Hook} {r : World × Out}
    (h : pairReceive w p t from_ amount hk = .ok r) : ∀ a ∈ hk.validated from_, w.badAddr a = false := by
  cases hk with
  | swap offer amt b ms dst =>
    obtain ⟨_, k⟩ := pairReceive_swap h
    exact badTo_false_iff.mp k.valid
  | withdraw =>
    obtain ⟨_, k⟩ := pairReceive_withdraw h
    intro a ha
    rw [List.mem_singleton.mp ha]
    exact k.valid
  | routerOps ops mn dst => exact absurd h pairReceive_routerOps
  | garbage => exact absurd h pairReceive_garbage

theorem routerReceive_valid {name : Asset → String} {w w' : World} {from_ : Nat} {hk : Hook}
    (h : routerReceive name w from_ hk = .ok w') : ∀ a ∈ hk.validated from_, w.badAddr a = false := by
  obtain ⟨ops, mn, dst, rfl, hf, hd, _⟩ := routerReceive_ok h
  intro a ha
  rcases List.mem_cons.mp ha with rfl | ha
  · exact hf
  · exact badTo_false_iff.mp hd a ha

theorem pairExec_valid {w : World} {s p : Nat} {f : List (Nat × Nat)} {m : PairMsg} {r : World × Out}
    (h : pairExec w s p f m = .ok r) : ∀ a ∈ validatedAddrs (.pair s p f m), w.badAddr a = false := by
  obtain ⟨P, w0, _, h0, h⟩ := pairExec_ok h
  rw [← (attach_same h0).badAddr]
  cases m with
  | provide as0 am0 as1 am1 tol rcv =>
    obtain ⟨w1, sh, h1, _⟩ := h
    obtain ⟨_, _, _, _, _, _, k⟩ := pairProvide_ok h1
    exact badTo_false_iff.mp k.valid
  | swap offer amt b ms dst =>
    obtain ⟨_, _, _, _, hv, _⟩ := h
    exact badTo_false_iff.mp hv
  | receive from_ amount hk => exact pairReceive_valid h
  | updateDecimals d da db => exact fun _ ha => (List.not_mem_nil ha).elim

theorem routerExec_valid {name : Asset → String} {w w' : World} {s : Nat} {f : List (Nat × Nat)} {m : RouterMsg}
    (h : routerExec name w s f m = .ok w') : ∀ a ∈ validatedAddrs (.router s f m), w.badAddr a = false := by
  obtain ⟨w0, h0, h⟩ := routerExec_ok h
  rw [← (attach_same h0).badAddr]
  cases m with
  | swapOps ops mn dst => exact badTo_false_iff.mp h.1
  | swapOp o a dst => exact badTo_false_iff.mp h.1
  | assertMin a prev mn rcv => exact fun x hx => List.mem_singleton.mp hx ▸ h.1
  | receive from_ amount hk => exact routerReceive_valid h

theorem _root_.Halo.Delivered.valid {name : Asset → String} {w w1 w' : World} {t from_ d amt : Nat} {hk : Hook} {out : Out}
    (h : Delivered name w w1 t from_ d amt hk w' out) (s1 : Same w w1) :
    ∀ a ∈ hk.validated from_, w.badAddr a = false := by
  rw [← s1.badAddr]
  rcases h with ⟨_, h2⟩ | ⟨_, _, _, h2⟩
  · exact pairReceive_valid h2
  · exact routerReceive_valid h2

theorem exec_ok_validated {name : Asset → String} {w w' : World} {op : Op} {out : Out}
    (h : exec name w op = .ok (w', out)) : ∀ a ∈ validatedAddrs op, w.badAddr a = false := by
  have h := exec_ok h
  cases op with
  | pair s p f m => exact pairExec_valid h
  | router s f m => exact routerExec_valid h.1
  | factory s f m =>
    obtain ⟨w0, h0, h⟩ := facExec_ok h.1
    cases m with
    | updateConfig o tc pc =>
      rw [← (attach_same h0).badAddr]
      exact badTo_false_iff.mp (facUpdateConfig_ok h).2.1
    | _ => exact fun _ ha => (List.not_mem_nil ha).elim
  | tokSend t s d amt hk =>
    obtain ⟨w1, h1, h2⟩ := tokSend_ok h
    exact h2.valid (tokTransfer_paid h1).kept.toSame
  | tokSendFrom t sp o d amt hk =>
    obtain ⟨w1, h1, h2⟩ := tokSendFrom_iff.mp h
    exact h2.valid (tokTransferFrom_paid h1).kept.toSame
  | _ => exact fun _ ha => (List.not_mem_nil ha).elim

theorem bad_rejected {name : Asset → String} {w : World} {op : Op} {a : Nat}
    (ha : a ∈ validatedAddrs op) (hbad : w.badAddr a = true) (r : World × Out) : exec name w op ≠ .ok r := by
  intro h
  have := exec_ok_validated h a ha
  rw [hbad] at this
  cases this

theorem bad_step {name : Asset → String} {w : World} {op : Op} {a : Nat}
    (ha : a ∈ validatedAddrs op) (hbad : w.badAddr a = true) : step name w op = w :=
  step_eq_of_not_ok (bad_rejected ha hbad)

theorem successful_swap_to_is_valid {name : Asset → String} {w w' : World} {out : Out} {a : Nat} :
    (∀ s p f offer amt b ms, exec name w (.pair s p f (.swap offer amt b ms (some a))) = .ok (w', out) →
      w.badAddr a = false) ∧
    (∀ t s p amt offer a' b ms, exec name w (.tokSend t s p amt (.swap offer a' b ms (some a))) = .ok (w', out) →
      w.badAddr a = false) ∧
    (∀ t sp o p amt offer a' b ms,
      exec name w (.tokSendFrom t sp o p amt (.swap offer a' b ms (some a))) = .ok (w', out) → w.badAddr a = false) ∧
    (∀ s f ops mn, exec name w (.router s f (.swapOps ops mn (some a))) = .ok (w', out) → w.badAddr a = false) ∧
    (∀ t s d amt ops mn, exec name w (.tokSend t s d amt (.routerOps ops mn (some a))) = .ok (w', out) →
      w.badAddr a = false) ∧
    (∀ t sp o d amt ops mn, exec name w (.tokSendFrom t sp o d amt (.routerOps ops mn (some a))) = .ok (w', out) →
      w.badAddr a = false) :=
  ⟨fun _ _ _ _ _ _ _ h => exec_ok_validated h a (.head _),
   fun _ _ _ _ _ _ _ _ h => exec_ok_validated h a (.head _),
   fun _ _ _ _ _ _ _ _ _ h => exec_ok_validated h a (.head _),
   fun _ _ _ _ h => exec_ok_validated h a (.head _),
   fun _ _ _ _ _ _ h => exec_ok_validated h a (.tail _ (.head _)),
   fun _ _ _ _ _ _ _ h => exec_ok_validated h a (.tail _ (.head _))⟩

theorem handler_to_is_valid {name : Asset → String} {w : World} {dst : Option Nat} :
    (∀ s p f offer amt b ms r, pairExec w s p f (.swap offer amt b ms dst) = .ok r → badTo w dst = false) ∧
    (∀ t u p amt offer a' b ms r, tokSendPair w t u p amt (.swap offer a' b ms dst) = .ok r → badTo w dst = false) ∧
    (∀ s f ops mn w', routerExec name w s f (.swapOps ops mn dst) = .ok w' → badTo w dst = false) ∧
    (∀ from_ ops mn w', routerReceive name w from_ (.routerOps ops mn dst) = .ok w' → badTo w dst = false) :=
  ⟨fun _ _ _ _ _ _ _ _ h => badTo_false_iff.mpr (pairExec_valid h),
   fun _ _ _ _ _ _ _ _ _ h => by
    obtain ⟨w1, h1, h2⟩ := tokSendPair_ok h
    exact badTo_false_iff.mpr ((tokTransfer_paid h1).kept.badAddr ▸ pairReceive_valid h2),
   fun _ _ _ _ _ h => badTo_false_iff.mpr (routerExec_valid h),
   fun _ _ _ _ h => badTo_false_iff.mpr fun a ha => routerReceive_valid h a (List.mem_cons_of_mem _ ha)⟩

theorem badAddr_static_step {name : Asset → String} (w : World) (op : Op) : (step name w op).badAddr = w.badAddr :=
  badAddr_run [op] w

end Halo.Valid
