/-
Proofs for `Halo/Props/Rational.lean`: each cross-multiplied natural-number predicate of `Halo/Spec.lean`
is exactly the rational bound of the property text.

Every reading is obtained the same way: the rational side is rewritten to a comparison of fractions
with positive denominators and cross-multiplied (`div_lt_div_iff₀`, `lt_div_iff₀`, …); what is left
is the cast of the natural-number predicate.
-/
import Halo.Spec
import Halo.Inv
import Mathlib.Algebra.Order.Field.Basic
import Mathlib.Algebra.Order.Field.Rat
import Mathlib.Tactic.Ring

namespace Halo.Rational

/-! Mathlib's order lemmas for a general ordered field, stated once for `ℚ` under the names they have there, so that
inside this namespace a `rw [le_div_iff₀ h]` takes the `ℚ` instance: used at `ℚ` directly, each `rw` would search
the instances again (some 80 k heartbeats a step). -/
section
variable {a b c d : ℚ}
theorem cast_pos {n : ℕ} (h : 0 < n) : (0 : ℚ) < n := Nat.cast_pos.2 h
theorem cast_sub_pos {m n : ℕ} (h : m < n) : (0 : ℚ) < (n : ℚ) - m := sub_pos.2 (Nat.cast_lt.2 h)
theorem div_lt_div_iff₀ (hb : 0 < b) (hd : 0 < d) : a / b < c / d ↔ a * d < c * b := _root_.div_lt_div_iff₀ hb hd
theorem div_le_div_iff₀ (hb : 0 < b) (hd : 0 < d) : a / b ≤ c / d ↔ a * d ≤ c * b := _root_.div_le_div_iff₀ hb hd
theorem le_div_iff₀ (hc : 0 < c) : a ≤ b / c ↔ a * c ≤ b := _root_.le_div_iff₀ hc
theorem lt_div_iff₀ (hc : 0 < c) : a < b / c ↔ a * c < b := _root_.lt_div_iff₀ hc
theorem div_lt_iff₀ (hc : 0 < c) : b / c < a ↔ b < a * c := _root_.div_lt_iff₀ hc
theorem sub_lt_iff_lt_add : a - b < c ↔ a < c + b := _root_.sub_lt_iff_lt_add
theorem le_sub_iff_add_le : a ≤ c - b ↔ a + b ≤ c := _root_.le_sub_iff_add_le
end

theorem cast_E_pos : (0 : ℚ) < (E : ℚ) := cast_pos E_pos

theorem cast_add_pos {m n : ℕ} (h : 0 < m + n) : (0 : ℚ) < (m : ℚ) + n := by exact_mod_cast h

/-- `b/(1 − c/e)` as one fraction -/
theorem div_one_sub_div {b c e : ℚ} (he : e ≠ 0) : b / (1 - c / e) = b * e / (e - c) := by
  rw [one_sub_div he, div_div_eq_mul_div]

/-- a ratio scaled by `1 − c/e`, as one fraction -/
theorem div_mul_one_sub_div {N D c e : ℚ} (he : e ≠ 0) :
    N / D * (1 - c / e) = N * (e - c) / (D * e) := by
  rw [one_sub_div he, div_mul_div_comm]

theorem lt_div_add_iff {n N D k : ℚ} (hD : 0 < D) : n < N / D + k ↔ n * D < N + k * D := by
  rw [← sub_lt_iff_lt_add, lt_div_iff₀ hD, sub_mul, sub_lt_iff_lt_add]

theorem div_sub_lt_iff {n N D k : ℚ} (hD : 0 < D) : N / D - k < n ↔ N < (n + k) * D := by
  rw [sub_lt_iff_lt_add, div_lt_iff₀ hD]

/-- passes between two arrangements of one polynomial inequality; `ring` checks the difference -/
theorem lt_iff_lt_of_sub_eq {a b c d : ℚ} (h : b - a = d - c) : a < b ↔ c < d := by
  rw [← sub_pos, h, sub_pos]

theorem c01_rat {x y a n : Nat} (hD : 0 < x + a) :
    n * (x + a) ≤ y * a ↔ (n : ℚ) ≤ (y : ℚ) * a / ((x : ℚ) + a) := by
  rw [le_div_iff₀ (cast_add_pos hD)]
  norm_cast

theorem c06_rat {x y a c n s k : Nat} (hD : 0 < x + a) (hc : c ≤ E) :
    Spec.c06 x y a c n s k = true ↔
      k = (n + k) * c / E ∧ n + k + s = y * a / x ∧
      ((y : ℚ) * a / ((x : ℚ) + a)) * (1 - (c : ℚ) / E) - 1 < (n : ℚ) ∧
      (n : ℚ) < ((y : ℚ) * a / ((x : ℚ) + a)) * (1 - (c : ℚ) / E) + 1 := by
  have hDE : (0 : ℚ) < ((x : ℚ) + a) * E := mul_pos (cast_add_pos hD) cast_E_pos
  rw [div_mul_one_sub_div cast_E_pos.ne', lt_div_add_iff hDE, div_sub_lt_iff hDE, one_mul,
    ← Nat.cast_sub hc]
  simp only [Spec.c06, Bool.and_eq_true, decide_eq_true_eq, and_assoc]
  norm_cast
  exact and_congr_right' (and_congr_right' and_comm)

theorem c04_rat {r a S x : Nat} (hS : 0 < S) :
    Spec.c04 r a S x = true ↔
      (r : ℚ) * a / S - (r : ℚ) / E - 1 < (x : ℚ) ∧ (x : ℚ) ≤ (r : ℚ) * a / S := by
  have hS' : (0 : ℚ) < S := cast_pos hS
  rw [sub_lt_iff_lt_add, sub_lt_iff_lt_add, add_div' _ _ _ cast_E_pos.ne', div_lt_div_iff₀ hS' cast_E_pos,
    le_div_iff₀ hS']
  simp only [Spec.c04, Bool.and_eq_true, decide_eq_true_eq]
  rw [show (x + 1) * S * E + r * S = ((x + 1) * E + r) * S by ring]
  norm_cast
  exact and_comm

theorem c05Pos_rat {S d0 d1 r0 r1 m : Nat} (h0 : 0 < r0) (h1 : 0 < r1) :
    Spec.c05Pos S d0 d1 r0 r1 m = true ↔
      min ((d0 : ℚ) * S / r0) ((d1 : ℚ) * S / r1) - 1 < (m : ℚ) ∧
      (m : ℚ) ≤ min ((d0 : ℚ) * S / r0) ((d1 : ℚ) * S / r1) := by
  have h0' : (0 : ℚ) < r0 := cast_pos h0
  have h1' : (0 : ℚ) < r1 := cast_pos h1
  rw [sub_lt_iff_lt_add, min_lt_iff, le_min_iff, div_lt_iff₀ h0', div_lt_iff₀ h1', le_div_iff₀ h0',
    le_div_iff₀ h1']
  simp only [Spec.c05Pos, Bool.and_eq_true, Bool.or_eq_true, decide_eq_true_eq]
  norm_cast
  exact and_comm

theorem c10BeliefSound_rat {o r p ms : Nat} (hp : 0 < p) :
    Spec.c10BeliefSound o r p ms = true ↔
      ((1 : ℚ) < (o : ℚ) / ((p : ℚ) / E) → (ms : ℚ) / E < 1 →
        ((o : ℚ) / ((p : ℚ) / E) - 1) * (1 - (ms : ℚ) / E - 1 / E) < (r : ℚ)) := by
  have hp' : (0 : ℚ) < p := cast_pos hp
  -- guards: `1 < oE/p` is `p < oE`, `ms/E < 1` is `ms < E`; the product is `(oE − p)(E − ms − 1)/(pE)`
  rw [div_div_eq_mul_div, lt_div_iff₀ hp', one_mul, div_lt_one cast_E_pos, div_sub_one hp'.ne',
    one_sub_div cast_E_pos.ne', div_sub_div_same, div_mul_div_comm, div_lt_iff₀ (mul_pos hp' cast_E_pos),
    ← mul_assoc, ← Nat.cast_mul, Nat.cast_lt, Nat.cast_lt]
  simp only [Spec.c10BeliefSound, Bool.or_eq_true, Bool.not_eq_true', Bool.eq_false_iff, ne_eq,
    Bool.and_eq_true, decide_eq_true_eq, ← imp_iff_not_or, and_imp]
  -- the truncated subtractions of the predicate are exact under its two guards
  refine forall₂_congr fun h1 h2 => ?_
  rw [← Nat.cast_lt (α := ℚ)]
  push_cast [Nat.cast_sub h1.le, Nat.cast_sub h2.le, Nat.cast_sub (Nat.sub_pos_of_lt h2)]
  rfl

theorem c10BeliefComplete_rat {o r p ms : Nat} (hp : 0 < p) :
    Spec.c10BeliefComplete o r p ms = true ↔
      ms ≤ E ∧ (r : ℚ) < ((o : ℚ) / ((p : ℚ) / E)) * (1 - (ms : ℚ) / E) := by
  have hp' : (0 : ℚ) < p := cast_pos hp
  rw [div_mul_one_sub_div cast_E_pos.ne', div_mul_cancel₀ _ cast_E_pos.ne', lt_div_iff₀ hp']
  simp only [Spec.c10BeliefComplete, Bool.and_eq_true, decide_eq_true_eq]
  refine and_congr_right fun hms => ?_
  rw [← Nat.cast_sub hms]
  norm_cast

theorem c10SpreadSound_rat {r s ms : Nat} (h : 0 < r + s) :
    Spec.c10SpreadSound r s ms = true ↔ (s : ℚ) / ((r : ℚ) + s) < (ms : ℚ) / E + 1 / E := by
  rw [← add_div, div_lt_div_iff₀ (cast_add_pos h) cast_E_pos]
  simp only [Spec.c10SpreadSound, decide_eq_true_eq]
  norm_cast

theorem c10SpreadComplete_rat {r s ms : Nat} (h : 0 < r + s) :
    Spec.c10SpreadComplete r s ms = true ↔ (ms : ℚ) / E < (s : ℚ) / ((r : ℚ) + s) := by
  rw [div_lt_div_iff₀ cast_E_pos (cast_add_pos h)]
  simp only [Spec.c10SpreadComplete, decide_eq_true_eq]
  norm_cast

-- In the next two, both fractions carry a factor `E` in the denominator; it is cancelled after
-- cross-multiplying.

private theorem c15s_aux {t d0 d1 r0 r1 : ℕ} (ht : t ≤ E) (hd1 : 0 < d1) (hr1 : 0 < r1) :
    d0 * (E - t) * r1 < r0 * d1 * E + 2 * d1 * r1 ↔
      ((d0 : ℚ) / d1) * (1 - (t : ℚ) / E) < (r0 : ℚ) / r1 + 2 / E := by
  have hd1' : (0 : ℚ) < d1 := cast_pos hd1
  have hr1' : (0 : ℚ) < r1 := cast_pos hr1
  rw [div_mul_one_sub_div cast_E_pos.ne', div_add_div _ _ hr1'.ne' cast_E_pos.ne',
    div_lt_div_iff₀ (mul_pos hd1' cast_E_pos) (mul_pos hr1' cast_E_pos), ← mul_assoc, ← mul_assoc,
    mul_lt_mul_iff_of_pos_right cast_E_pos, ← Nat.cast_sub ht,
    show r0 * d1 * E + 2 * d1 * r1 = (r0 * E + r1 * 2) * d1 by ring]
  norm_cast

theorem c15Sound_rat {t d0 d1 r0 r1 : Nat} (hd0 : 0 < d0) (hd1 : 0 < d1) (hr0 : 0 < r0) (hr1 : 0 < r1) :
    Spec.c15Sound t d0 d1 r0 r1 = true ↔
      t ≤ E ∧
      ((d0 : ℚ) / d1) * (1 - (t : ℚ) / E) < (r0 : ℚ) / r1 + 2 / E ∧
      ((d1 : ℚ) / d0) * (1 - (t : ℚ) / E) < (r1 : ℚ) / r0 + 2 / E := by
  simp only [Spec.c15Sound, Bool.and_eq_true, decide_eq_true_eq, and_assoc]
  exact and_congr_right fun ht => and_congr (c15s_aux ht hd1 hr1) (c15s_aux ht hd0 hr0)

private theorem c15c_aux {t d0 d1 r0 r1 : ℕ} (ht : t ≤ E) (hd1 : 0 < d1) (hr1 : 0 < r1) :
    r0 * d1 * E < d0 * (E - t) * r1 + d1 * r1 ↔
      ¬ (((d0 : ℚ) / d1) * (1 - (t : ℚ) / E) ≤ (r0 : ℚ) / r1 - 1 / E) := by
  have hd1' : (0 : ℚ) < d1 := cast_pos hd1
  have hr1' : (0 : ℚ) < r1 := cast_pos hr1
  rw [not_le, div_mul_one_sub_div cast_E_pos.ne', div_sub_div _ _ hr1'.ne' cast_E_pos.ne', mul_one,
    div_lt_div_iff₀ (mul_pos hr1' cast_E_pos) (mul_pos hd1' cast_E_pos), ← mul_assoc, ← mul_assoc,
    mul_lt_mul_iff_of_pos_right cast_E_pos, sub_mul, sub_lt_iff_lt_add, ← Nat.cast_sub ht,
    Nat.mul_right_comm r0, Nat.mul_comm d1 r1]
  norm_cast

theorem c15Complete_rat {t d0 d1 r0 r1 : Nat} (ht : t ≤ E) (hd0 : 0 < d0) (hd1 : 0 < d1)
    (hr0 : 0 < r0) (hr1 : 0 < r1) :
    Spec.c15Complete t d0 d1 r0 r1 = true ↔
      ¬ (((d0 : ℚ) / d1) * (1 - (t : ℚ) / E) ≤ (r0 : ℚ) / r1 - 1 / E ∧
         ((d1 : ℚ) / d0) * (1 - (t : ℚ) / E) ≤ (r1 : ℚ) / r0 - 1 / E) := by
  simp only [Spec.c15Complete, Bool.or_eq_true, decide_eq_true_eq]
  rw [not_and_or]
  exact or_congr (c15c_aux ht hd1 hr1) (c15c_aux ht hd0 hr0)

theorem c12Domain_iff {y b c : Nat} : Spec.c12Domain y b c = true ↔ c < E ∧ b * E < y * (E - c) := by
  simp only [Spec.c12Domain, Bool.and_eq_true, decide_eq_true_eq]

theorem c12Reverse_rat {x y b c o : Nat} (hd : Spec.c12Domain y b c = true) :
    Spec.c12Reverse x y b c o = true ↔
      (o : ℚ) ≤ (x : ℚ) * y / ((y : ℚ) - (b : ℚ) / (1 - (c : ℚ) / E)) - x := by
  obtain ⟨hc, hb⟩ := c12Domain_iff.1 hd
  have hω : (0 : ℚ) < (E : ℚ) - c := cast_sub_pos hc
  have hN : (0 : ℚ) < ((y * (E - c) - b * E : ℕ) : ℚ) := cast_pos (Nat.sub_pos_of_lt hb)
  push_cast [Nat.cast_sub hb.le, Nat.cast_sub hc.le] at hN
  rw [div_one_sub_div cast_E_pos.ne', sub_div' hω.ne', div_div_eq_mul_div,
    le_sub_iff_add_le, le_div_iff₀ hN]
  simp only [Spec.c12Reverse, decide_eq_true_eq]
  rw [← Nat.cast_le (α := ℚ)]
  push_cast [Nat.cast_sub hb.le, Nat.cast_sub hc.le]
  rfl

/-- the reading of `Spec.c12ReverseLower` needs only that the perturbed denominator
`y − ask/(1−γ) + ask/E + 1` is positive, not `Spec.c12Domain` -/
theorem c12ReverseLower_rat_of_pos {x y b c o : Nat} (hc : c < E)
    (hpos : b * E * E < y * E * (E - c) + b * (E - c) + E * (E - c)) :
    Spec.c12ReverseLower x y b c o = true ↔
      (x : ℚ) * y / ((y : ℚ) - (b : ℚ) / (1 - (c : ℚ) / E) + (b : ℚ) / E + 1) - x - 1 < (o : ℚ) := by
  have hω : (0 : ℚ) < (E : ℚ) - c := cast_sub_pos hc
  rw [← Nat.cast_lt (α := ℚ)] at hpos
  simp only [Spec.c12ReverseLower, decide_eq_true_eq]
  rw [← Nat.cast_lt (α := ℚ)]
  push_cast [Nat.cast_sub hc.le] at hpos ⊢
  have hN : 0 < ((y : ℚ) * (E - c) - b * E) * E + (E - c) * b + (E - c) * E :=
    (lt_iff_lt_of_sub_eq (by ring)).1 hpos
  rw [div_one_sub_div cast_E_pos.ne', sub_div' hω.ne', div_add_div _ _ hω.ne' cast_E_pos.ne',
    div_add_one (mul_pos hω cast_E_pos).ne', div_div_eq_mul_div, sub_sub, div_sub_lt_iff hN]
  exact lt_iff_lt_of_sub_eq (by ring)

theorem c12ReverseLower_rat {x y b c o : Nat} (hd : Spec.c12Domain y b c = true) :
    Spec.c12ReverseLower x y b c o = true ↔
      (x : ℚ) * y / ((y : ℚ) - (b : ℚ) / (1 - (c : ℚ) / E) + (b : ℚ) / E + 1) - x - 1 < (o : ℚ) := by
  obtain ⟨hc, hb⟩ := c12Domain_iff.1 hd
  refine c12ReverseLower_rat_of_pos hc ?_
  calc b * E * E < y * (E - c) * E := Nat.mul_lt_mul_of_pos_right hb E_pos
    _ = y * E * (E - c) := Nat.mul_right_comm _ _ _
    _ ≤ _ := (Nat.le_add_right _ _).trans (Nat.le_add_right _ _)

theorem nonDecr_rat {r0 r1 S r0' r1' S' : Nat} :
    NonDecr (r0, r1, S) (r0', r1', S') ↔
      (0 < S → 0 < S' ∧ (r0 : ℚ) * r1 / ((S : ℚ) ^ 2) ≤ (r0' : ℚ) * r1' / ((S' : ℚ) ^ 2)) := by
  refine forall_congr' fun hS => and_congr_right fun hS' => ?_
  have a : (0 : ℚ) < S := cast_pos hS
  have b : (0 : ℚ) < S' := cast_pos hS'
  rw [div_le_div_iff₀ (pow_pos a 2) (pow_pos b 2), pow_two, pow_two]
  norm_cast

theorem entitlement_rat {r a S : Nat} (hS : 0 < S) :
    (r + 2 * E) * S ≤ r * a * E ↔ (r : ℚ) / E + 2 ≤ (r : ℚ) * a / S := by
  have hS' : (0 : ℚ) < S := cast_pos hS
  rw [div_add' _ _ _ cast_E_pos.ne', div_le_div_iff₀ cast_E_pos hS']
  norm_cast

end Halo.Rational
