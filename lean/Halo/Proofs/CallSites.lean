/-
Call-site proofs: the guard functions (`assert_max_spread`, `assert_slippage_tolerance`,
`assert_operations`, `assert_sent_native_token_balance`) are proved correct in isolation elsewhere
(C10, C15, C13, C09).  Here the *handlers* are read: a successful swap / provision / route passed
the guard on exactly the arguments the handler computes from the world at handler entry, and a `.guard`
rejection of a handler (or of the whole transaction) can only come from that one call, because nothing
else in the model produces that error (`NG`).
-/
import Halo.Proofs.C02
import Halo.Proofs.C10
import Halo.Proofs.C11
import Halo.Proofs.C13
import Halo.Proofs.C14

namespace Halo.CallSites

/-! ### no primitive other than the two guards ever produces `.guard` -/

open Halo.C10 (u256_mul_ne_guard u256_div_ne_guard u256_add_ne_guard uint_add_ne_guard
  uint_sub_ne_guard fromRatio_ne_guard mulRatio_ne_guard)

theorem ng_u256_div (a b : Nat) : NG (u256.div a b) := u256_div_ne_guard a b
theorem ng_u256_add (a b : Nat) : NG (u256.add a b) := u256_add_ne_guard a b
theorem ng_fromUint (v : Nat) : NG (Dec.fromUint v) := u256_mul_ne_guard v E
theorem ng_uint_mul (a b : Nat) : NG (Uint.mul a b) := .ite (.ok _) (u256_mul_ne_guard a b)
theorem ng_mulDec (u d : Nat) : NG (Uint.mulDec u d) := .ite (.ok _) (mulRatio_ne_guard u d E)
theorem ng_dec_sub (a b : Nat) : NG (Dec.sub a b) := .ite (.ok _) (.err nofun)
theorem ng_toU128 (n : Nat) : NG (toU128 n) := .ite (.ok _) (.err nofun)
theorem ng_checkedSub (a b : Nat) : NG (Cw.checkedSub a b) := .ite (.ok _) (.err nofun)
theorem ng_validTo (w : World) (dst : Option Nat) : NG (validTo w dst) := .ite (.err nofun) (.ok _)

theorem ng_computeSwap (x y a c : Nat) : NG (computeSwap x y a c) :=
  .bind (ng_uint_mul _ _) fun _ => .bind (ng_fromUint _) fun _ => .bind (uint_add_ne_guard _ _) fun _ =>
  .bind (fromRatio_ne_guard _ _) fun _ => .bind (ng_dec_sub _ _) fun _ => .bind (ng_mulDec _ _) fun _ =>
  .bind (ng_uint_mul _ _) fun _ => .bind (fromRatio_ne_guard _ _) fun _ => .bind (ng_mulDec _ _) fun _ =>
  .bind (uint_sub_ne_guard _ _) fun _ => .bind (ng_mulDec _ _) fun _ => .bind (uint_sub_ne_guard _ _) fun _ =>
  .bind (ng_toU128 _) fun _ => .bind (ng_toU128 _) fun _ => .bind (ng_toU128 _) fun _ => .pure _

theorem ng_assertSent (a : Asset) (amt : Nat) (funds : List (Nat × Nat)) : NG (assertSent a amt funds) := by
  cases a with
  | native d =>
    unfold assertSent assertSentNative
    dsimp only
    cases funds.find? _ with
    | none => exact .ite (.ok _) (.err nofun)
    | some c => exact .ite (.ok _) (.err nofun)
  | token t => exact .ok _

theorem ng_balOf (w : World) (a : Asset) (z : Nat) : NG (balOf w a z) := by
  cases a with
  | native d => exact .ok _
  | token t =>
    unfold balOf
    dsimp only
    cases w.tok t with
    | none => exact .err nofun
    | some T => exact .ok _

theorem ng_supplyOf (w : World) (t : Nat) : NG (supplyOf w t) := by
  unfold supplyOf
  cases w.tok t with
  | none => exact .err nofun
  | some T => exact .ok _

theorem ng_bankMoveList (s d : Nat) : ∀ (cs : List (Nat × Nat)) (w : World), NG (bankMoveList w s d cs)
  | [], _ => .ok _
  | _ :: cs, _ => .bind (.ite (.err nofun) (.ok _)) fun w1 => ng_bankMoveList s d cs w1

theorem ng_bankSend (w : World) (s d : Nat) (cs : List (Nat × Nat)) : NG (bankSend w s d cs) :=
  .ite (.err nofun) (ng_bankMoveList _ _ _ _)

theorem ng_attach (w : World) (s d : Nat) (cs : List (Nat × Nat)) : NG (attach w s d cs) :=
  .ite (.ok _) (ng_bankSend _ _ _ _)

theorem ng_tokTransfer (w : World) (t s d amt : Nat) : NG (tokTransfer w t s d amt) := by
  unfold tokTransfer
  cases w.tok t with
  | none => exact .err nofun
  | some T => exact .ite (.err nofun) (.ite (.err nofun) (.ok _))

theorem ng_tokTransferFrom (w : World) (t sp o d amt : Nat) : NG (tokTransferFrom w t sp o d amt) := by
  unfold tokTransferFrom
  cases w.tok t with
  | none => exact .err nofun
  | some T =>
    dsimp only
    cases T.allow o sp with
    | none => exact .err nofun
    | some al => exact .ite (.err nofun) (.ite (.err nofun) (.ok _))

theorem ng_tokMint (w : World) (t s d amt : Nat) : NG (tokMint w t s d amt) := by
  unfold tokMint
  cases w.tok t with
  | none => exact .err nofun
  | some T => exact .ite (.err nofun) (.ite (.err nofun) (.ite (.err nofun) (.ok _)))

theorem ng_payout (w : World) (src : Nat) (a : Asset) (dst amt : Nat) : NG (payout w src a dst amt) := by
  cases a with
  | native d => exact ng_bankSend _ _ _ _
  | token t => exact ng_tokTransfer _ _ _ _ _

theorem ng_pull (w : World) (a : Asset) (p s d : Nat) : NG (pull w a p s d) := by
  cases a with
  | native x => exact .pure _
  | token x => exact ng_tokTransferFrom _ _ _ _ _ _

/-! ### C10 at the call site: `swap` -/

/-- a successful `swap` passed `assert_max_spread` on the amounts it had just priced and on the decimals in (offer, ask)
order -/
theorem swap_passed_guard {w0 w' : World} {p : Nat} {P : PairSt} {funds : List (Nat × Nat)} {trader : Nat}
    {offer : Asset} {amt : Nat} {belief ms toAddr : Option Nat} {o : SwapOut}
    (h : pairSwap w0 p P funds trader offer amt belief ms toAddr = .ok (w', o)) :
    (offer = P.a0 ∨ offer = P.a1) ∧ amt ≤ bal w0 offer p ∧
    o.offer = amt ∧ o.ask = (if offer = P.a0 then P.a1 else P.a0) ∧
    computeSwap (bal w0 offer p - amt) (bal w0 (if offer = P.a0 then P.a1 else P.a0) p) amt P.comm
      = .ok (o.ret, o.spread, o.comm) ∧
    assertMaxSpread belief ms amt o.ret o.spread
      (if offer = P.a0 then P.d0 else P.d1) (if offer = P.a0 then P.d1 else P.d0) = .ok () := by
  have k := pairSwap_ok h
  exact ⟨k.side, k.le, k.offer_eq, k.ask_eq, k.ask_eq ▸ k.priced, k.guarded⟩

theorem passed_needs_norm {belief ms : Option Nat} {offer ret spread od rd : Nat} {u : Unit}
    (h : assertMaxSpread belief ms offer ret spread od rd = .ok u) :
    ∃ t, normSpread offer ret spread od rd = .ok t :=
  let ⟨t, ht, _⟩ := (bind_ok_iff _ _ _).mp h
  ⟨t, ht⟩

/-- hence (with `Halo.C10.belief_sound`) the C10 bound holds of the reported amounts -/
theorem swap_honours_belief {w0 w' : World} {p : Nat} {P : PairSt} {funds : List (Nat × Nat)} {trader : Nat}
    {offer : Asset} {amt pb m : Nat} {toAddr : Option Nat} {o : SwapOut}
    (h : pairSwap w0 p P funds trader offer amt (some pb) (some m) toAddr = .ok (w', o)) :
    ∃ o' r' s', normSpread amt o.ret o.spread
        (if offer = P.a0 then P.d0 else P.d1) (if offer = P.a0 then P.d1 else P.d0) = .ok (o', r', s') ∧
      Spec.c10BeliefSound o' r' pb m = true := by
  have hg := (pairSwap_ok h).guarded
  obtain ⟨⟨o', r', s'⟩, hn⟩ := passed_needs_norm hg
  exact ⟨o', r', s', hn, Halo.C10.belief_sound hn hg⟩

theorem swap_honours_spread {w0 w' : World} {p : Nat} {P : PairSt} {funds : List (Nat × Nat)} {trader : Nat}
    {offer : Asset} {amt m : Nat} {toAddr : Option Nat} {o : SwapOut}
    (h : pairSwap w0 p P funds trader offer amt none (some m) toAddr = .ok (w', o)) :
    ∃ o' r' s', normSpread amt o.ret o.spread
        (if offer = P.a0 then P.d0 else P.d1) (if offer = P.a0 then P.d1 else P.d0) = .ok (o', r', s') ∧
      Spec.c10SpreadSound r' s' m = true := by
  have hg := (pairSwap_ok h).guarded
  obtain ⟨⟨o', r', s'⟩, hn⟩ := passed_needs_norm hg
  exact ⟨o', r', s', hn, Halo.C10.spread_sound hn hg⟩

theorem swap_guard_rejection {w0 : World} {p : Nat} {P : PairSt} {funds : List (Nat × Nat)} {trader : Nat}
    {offer : Asset} {amt : Nat} {belief ms toAddr : Option Nat}
    (h : pairSwap w0 p P funds trader offer amt belief ms toAddr = .error .guard) :
    (offer = P.a0 ∨ offer = P.a1) ∧ amt ≤ bal w0 offer p ∧
    ∃ n s k,
      computeSwap (bal w0 offer p - amt) (bal w0 (if offer = P.a0 then P.a1 else P.a0) p) amt P.comm
        = .ok (n, s, k) ∧
      assertMaxSpread belief ms amt n s
        (if offer = P.a0 then P.d0 else P.d1) (if offer = P.a0 then P.d1 else P.d0) = .error .guard := by
  unfold pairSwap at h
  obtain ⟨_, _, h⟩ := bind_guard h (ng_assertSent _ _ _)
  obtain ⟨r0, hr0, h⟩ := bind_guard h (ng_balOf _ _ _)
  obtain ⟨r1, hr1, h⟩ := bind_guard h (ng_balOf _ _ _)
  obtain ⟨⟨x, y, ask, od, ad⟩, hbr, h⟩ := bind_guard h (.ite (.bind (ng_checkedSub _ _) fun _ => .pure _)
    (.ite (.bind (ng_checkedSub _ _) fun _ => .pure _) (.err nofun)))
  obtain ⟨⟨n, s, k⟩, hcs, h⟩ := bind_guard h (ng_computeSwap _ _ _ _)
  have hg := guard_of_bind h fun _ =>
    .ite (.bind (.pure _) fun _ => .pure _) (.bind (ng_payout _ _ _ _ _) fun _ => .pure _)
  cases balOf_ok hr0
  cases balOf_ok hr1
  obtain ⟨hor, hle, rfl, rfl, rfl, rfl, rfl⟩ := swapSides_ok hbr
  exact ⟨hor, hle, n, s, k, hcs, hg⟩

theorem pairExec_guard {w : World} {s p : Nat} {funds : List (Nat × Nat)} {m : PairMsg}
    (h : pairExec w s p funds m = .error .guard) :
    ∃ P w0, w.pair p = some P ∧ attach w s p funds = .ok w0 ∧
      match m with
      | .provide as0 am0 as1 am1 tol rcv => pairProvide w0 p P s funds as0 am0 as1 am1 tol rcv = .error .guard
      | .swap offer amt b ms dst => pairSwap w0 p P funds s offer amt b ms dst = .error .guard
      | .receive from_ amount hk => pairReceive w0 p s from_ amount hk = .error .guard
      | .updateDecimals d da db => pairUpdateDecimals w0 p s d da db = .error .guard := by
  unfold pairExec at h
  cases hP : w.pair p with
  | none => rw [hP] at h; cases h
  | some P =>
    rw [hP] at h
    obtain ⟨w0, h0, h⟩ := bind_guard h (ng_attach _ _ _ _)
    refine ⟨P, w0, rfl, h0, ?_⟩
    cases m with
    | provide as0 am0 as1 am1 tol rcv => exact guard_of_bind h fun _ => .pure _
    | swap offer amt b ms dst =>
      cases offer with
      | token t => cases h
      | native d =>
        obtain ⟨_, _, h⟩ := bind_guard h (ng_validTo _ _)
        exact guard_of_bind h fun _ => .pure _
    | receive from_ amount hk => exact h
    | updateDecimals d da db => exact guard_of_bind h fun _ => .pure _

theorem pairReceive_swap_guard {w : World} {p t from_ amount : Nat} {offer : Asset} {amt : Nat}
    {b ms toAddr : Option Nat}
    (h : pairReceive w p t from_ amount (.swap offer amt b ms toAddr) = .error .guard) :
    ∃ P, w.pair p = some P ∧ amt = amount ∧ (P.a0 = .token t ∨ P.a1 = .token t) ∧ offer = .token t ∧
      pairSwap w p P [] from_ offer amt b ms toAddr = .error .guard := by
  unfold pairReceive at h
  cases hP : w.pair p with
  | none => rw [hP] at h; cases h
  | some P =>
    rw [hP] at h
    obtain ⟨h1, h⟩ := (ite_error_error_iff (by decide)).mp h
    obtain ⟨_, _, h⟩ := bind_guard h (ng_balOf _ _ _)
    obtain ⟨_, _, h⟩ := bind_guard h (ng_balOf _ _ _)
    obtain ⟨h2, h⟩ := (ite_error_error_iff (by decide)).mp h
    obtain ⟨h3, h⟩ := (ite_error_error_iff (by decide)).mp h
    obtain ⟨_, _, h⟩ := bind_guard h (ng_validTo _ _)
    exact ⟨P, rfl, Decidable.not_not.mp h1, Decidable.not_not.mp h2, Decidable.not_not.mp h3,
      guard_of_bind h fun _ => .pure _⟩

/-! ### C15 at the call site: `provide_liquidity` -/

theorem provide_passed_guard {w w' : World} {p : Nat} {P : PairSt} {s : Nat} {funds : List (Nat × Nat)}
    {as0 as1 : Asset} {am0 am1 : Nat} {tol rcv : Option Nat} {m : Nat}
    (h : pairProvide w p P s funds as0 am0 as1 am1 tol rcv = .ok (w', m)) :
    ∃ d0 d1,
      ((as0 = P.a0 ∧ d0 = am0) ∨ (as0 ≠ P.a0 ∧ as1 = P.a0 ∧ d0 = am1)) ∧
      ((as0 = P.a1 ∧ d1 = am0) ∨ (as0 ≠ P.a1 ∧ as1 = P.a1 ∧ d1 = am1)) ∧
      assertSlippage tol d0 d1
        (match P.a0 with | .native _ => bal w P.a0 p - d0 | .token _ => bal w P.a0 p)
        (match P.a1 with | .native _ => bal w P.a1 p - d1 | .token _ => bal w P.a1 p) = .ok () := by
  obtain ⟨d0, d1, _, _, _, _, k⟩ := pairProvide_ok h
  exact ⟨d0, d1, k.sel0, k.sel1, k.slippage⟩

theorem ng_netPool (a : Asset) (r d : Nat) :
    NG (match a with | .token _ => pure r | .native _ => Cw.checkedSub r d : M Nat) := by
  cases a with
  | native x => exact ng_checkedSub _ _
  | token x => exact .pure _

theorem provide_guard_rejection {w : World} {p : Nat} {P : PairSt} {s : Nat} {funds : List (Nat × Nat)}
    {as0 as1 : Asset} {am0 am1 : Nat} {tol rcv : Option Nat}
    (h : pairProvide w p P s funds as0 am0 as1 am1 tol rcv = .error .guard) :
    ∃ d0 d1,
      ((as0 = P.a0 ∧ d0 = am0) ∨ (as0 ≠ P.a0 ∧ as1 = P.a0 ∧ d0 = am1)) ∧
      ((as0 = P.a1 ∧ d1 = am0) ∨ (as0 ≠ P.a1 ∧ as1 = P.a1 ∧ d1 = am1)) ∧
      assertSlippage tol d0 d1
        (match P.a0 with | .native _ => bal w P.a0 p - d0 | .token _ => bal w P.a0 p)
        (match P.a1 with | .native _ => bal w P.a1 p - d1 | .token _ => bal w P.a1 p) = .error .guard := by
  unfold pairProvide at h
  obtain ⟨_, _, h⟩ := bind_guard h (ng_assertSent _ _ _)
  obtain ⟨_, _, h⟩ := bind_guard h (ng_assertSent _ _ _)
  obtain ⟨r0, hr0, h⟩ := bind_guard h (ng_balOf _ _ _)
  obtain ⟨r1, hr1, h⟩ := bind_guard h (ng_balOf _ _ _)
  obtain ⟨d0, hd0, h⟩ := bind_guard h (.ite (.pure _) (.ite (.pure _) (.err nofun)))
  obtain ⟨d1, hd1, h⟩ := bind_guard h (.ite (.pure _) (.ite (.pure _) (.err nofun)))
  obtain ⟨_, _, h⟩ := bind_guard h (uint_add_ne_guard _ _)
  obtain ⟨_, _, h⟩ := bind_guard h (uint_add_ne_guard _ _)
  obtain ⟨_, _, h⟩ := bind_guard h (ng_uint_mul _ _)
  obtain ⟨_, _, h⟩ := bind_guard h (ng_fromUint _)
  obtain ⟨p0, hp0, h⟩ := bind_guard h (ng_netPool _ _ _)
  obtain ⟨p1, hp1, h⟩ := bind_guard h (ng_netPool _ _ _)
  cases balOf_ok hr0
  cases balOf_ok hr1
  cases netPool_ok hp0
  cases netPool_ok hp1
  refine ⟨d0, d1, select_ok hd0, select_ok hd1, guard_of_bind h fun _ => ?_⟩
  -- nothing after the guard raises its error: the share, the two pulls, the mints
  refine .bind (ng_supplyOf _ _) fun S => .bind ?_ fun share => .ite (.err nofun) <|
    .bind (.ite (ng_checkedSub _ _) (.pure _)) fun _ => .bind (ng_pull _ _ _ _ _) fun _ =>
    .bind (ng_pull _ _ _ _ _) fun _ => .bind (.ite (ng_tokMint _ _ _ _ _) (.pure _)) fun _ =>
    .bind (ng_validTo _ _) fun _ => .bind (ng_tokMint _ _ _ _ _) fun _ => .pure _
  cases lpShare s P.req S d0 d1 _ _ with
  | ok m => exact .pure _
  | error e => exact .err nofun

/-! ### C13 at the call site: `execute_swap_operations` -/

theorem swapOps_checked {name : Asset → String} {w w' : World} {sender : Nat} {ops : List (Asset × Asset)}
    {mn toAddr : Option Nat} (h : routerSwapOps name w sender ops mn toAddr = .ok w') :
    assertOperations (opsTexts name ops) = .ok () :=
  let ⟨_, _, hc, _⟩ := routerSwapOps_ok h
  hc

theorem routerReceive_checked {name : Asset → String} {w w' : World} {from_ : Nat} {ops : List (Asset × Asset)}
    {mn toAddr : Option Nat} (h : routerReceive name w from_ (.routerOps ops mn toAddr) = .ok w') :
    assertOperations (opsTexts name ops) = .ok () := by
  obtain ⟨_, _, _, he, _, _, h⟩ := routerReceive_ok h
  cases he
  exact swapOps_checked h

theorem routerExec_swapOps_checked {name : Asset → String} {w w' : World} {s : Nat} {funds : List (Nat × Nat)}
    {ops : List (Asset × Asset)} {mn toAddr : Option Nat}
    (h : routerExec name w s funds (.swapOps ops mn toAddr) = .ok w') :
    assertOperations (opsTexts name ops) = .ok () :=
  let ⟨_, _, _, h⟩ := routerExec_ok h
  swapOps_checked h

theorem routerExec_receive_checked {name : Asset → String} {w w' : World} {s : Nat} {funds : List (Nat × Nat)}
    {from_ amount : Nat} {ops : List (Asset × Asset)} {mn toAddr : Option Nat}
    (h : routerExec name w s funds (.receive from_ amount (.routerOps ops mn toAddr)) = .ok w') :
    assertOperations (opsTexts name ops) = .ok () :=
  let ⟨_, _, h⟩ := routerExec_ok h
  routerReceive_checked h

theorem exec_swapOps_checked {name : Asset → String} {w w' : World} {s : Nat} {funds : List (Nat × Nat)}
    {ops : List (Asset × Asset)} {mn toAddr : Option Nat} {out : Out}
    (h : exec name w (.router s funds (.swapOps ops mn toAddr)) = .ok (w', out)) :
    assertOperations (opsTexts name ops) = .ok () :=
  routerExec_swapOps_checked (exec_ok h).1

theorem exec_receive_checked {name : Asset → String} {w w' : World} {s : Nat} {funds : List (Nat × Nat)}
    {from_ amount : Nat} {ops : List (Asset × Asset)} {mn toAddr : Option Nat} {out : Out}
    (h : exec name w (.router s funds (.receive from_ amount (.routerOps ops mn toAddr))) = .ok (w', out)) :
    assertOperations (opsTexts name ops) = .ok () :=
  routerExec_receive_checked (exec_ok h).1

/-- the cw20 `Send` entry point: whatever `dst` is, a successful send carrying a route hook ran
`execute_swap_operations` (a pair rejects the hook) -/
theorem tokSend_routerOps_checked {name : Asset → String} {w w' : World} {t s dst amt : Nat}
    {ops : List (Asset × Asset)} {mn toAddr : Option Nat} {out : Out}
    (h : tokSend name w t s dst amt (.routerOps ops mn toAddr) = .ok (w', out)) :
    dst = w.router ∧ assertOperations (opsTexts name ops) = .ok () := by
  obtain ⟨hd, _, _, hr⟩ := C11.tokSend_route_ok h
  exact ⟨hd, swapOps_checked hr⟩

theorem exec_tokSend_checked {name : Asset → String} {w w' : World} {t s amt : Nat}
    {ops : List (Asset × Asset)} {mn toAddr : Option Nat} {out : Out}
    (h : exec name w (.tokSend t s w.router amt (.routerOps ops mn toAddr)) = .ok (w', out)) :
    assertOperations (opsTexts name ops) = .ok () :=
  (tokSend_routerOps_checked (exec_ok h)).2

/-- the meaning of the check for an accepted route: not empty, exactly one dangling output -/
theorem checked_shape {name : Asset → String} {ops : List (Asset × Asset)}
    (h : assertOperations (opsTexts name ops) = .ok ()) :
    ops ≠ [] ∧ (danglingAsks (opsTexts name ops)).length = 1 := by
  refine ⟨?_, (Halo.C13.assertOperations_iff _).mp h⟩
  rintro rfl
  cases h

end Halo.CallSites
