/-
C18 — proofs about the text model (`Halo/Text.lean`): digit lemmas for `render` / `valOf`, the exact
success condition of `parseAux` / `parseDigits`, the shape of `splitDot`, `trimEnd0`, and from these
the render/parse round trips, canonical forms, the characterisation of accepted decimal strings, JSON
decoding with escape sequences (unescaping is the identity on rendered numerals and transparent for
accepted ones) and the width conversions.

A lemma about a function of the model carries that function's name as it is written there (`parseDigits_ok_iff`,
`decToStd_eq`, `jsonDec_ok`); the names in snake case (`uint_parse_ok_iff`, `dec_to_std_iff`) are those of the
property's statements in `Props/C18.lean`.
-/
import Halo.Proofs.Basic
import Halo.Text
import Mathlib.Tactic.Ring

namespace Halo.C18
open Halo.Text

theorem isDigit_iff {b : Nat} : isDigit b = true ↔ 48 ≤ b ∧ b ≤ 57 := by
  simp only [isDigit, Bool.and_eq_true, decide_eq_true_eq]

theorem render_small {n : Nat} (h : n < 10) : render n = [48 + n] := by
  show (digitsRev n).reverse = _
  rw [digitsRev, if_pos h]; rfl

theorem render_step {n : Nat} (h : ¬ n < 10) : render n = render (n / 10) ++ [48 + n % 10] := by
  show (digitsRev n).reverse = _
  rw [digitsRev, if_neg h, List.reverse_cons]; rfl

theorem valOf_nil : valOf [] = 0 := rfl

/-- reading `s` with `acc` already read: `acc` is shifted past the digits of `s` -/
theorem foldl_acc (acc : Nat) (s : List Nat) :
    s.foldl (fun a b => a * 10 + (b - 48)) acc = acc * 10 ^ s.length + valOf s := by
  induction s generalizing acc with
  | nil => rw [valOf_nil, List.foldl_nil, List.length_nil, pow_zero, Nat.mul_one, Nat.add_zero]
  | cons b t ih =>
    rw [valOf, List.foldl_cons, List.foldl_cons, ih, ih (0 * 10 + _), List.length_cons]
    ring

theorem valOf_append (a b : List Nat) : valOf (a ++ b) = valOf a * 10 ^ b.length + valOf b := by
  rw [valOf, List.foldl_append, foldl_acc]; rfl

theorem valOf_singleton (b : Nat) : valOf [b] = b - 48 := Nat.zero_add _

theorem valOf_cons (b : Nat) (t : List Nat) : valOf (b :: t) = (b - 48) * 10 ^ t.length + valOf t := by
  rw [← List.singleton_append, valOf_append, valOf_singleton]

theorem valOf_snoc (ds : List Nat) (d : Nat) : valOf (ds ++ [d]) = valOf ds * 10 + (d - 48) := by
  rw [valOf_append, valOf_singleton, List.length_singleton, Nat.pow_one]

theorem valOf_replicate (k : Nat) : valOf (List.replicate k 48) = 0 := by
  induction k with
  | zero => rfl
  | succ k ih => rw [List.replicate_succ, valOf_cons, ih, Nat.sub_self, Nat.zero_mul]

theorem valOf_pad (k : Nat) (ds : List Nat) : valOf (List.replicate k 48 ++ ds) = valOf ds := by
  rw [valOf_append, valOf_replicate, Nat.zero_mul, Nat.zero_add]

theorem valOf_trail (ds : List Nat) (k : Nat) :
    valOf (ds ++ List.replicate k 48) = valOf ds * 10 ^ k := by
  rw [valOf_append, valOf_replicate, List.length_replicate, Nat.add_zero]

theorem valOf_lt {s : List Nat} (h : ∀ b ∈ s, isDigit b = true) : valOf s < 10 ^ s.length := by
  induction s with
  | nil => exact Nat.one_pos
  | cons b t ih =>
    have hb := isDigit_iff.1 (h b List.mem_cons_self)
    have ht := ih fun c hc => h c (List.mem_cons_of_mem _ hc)
    have := Nat.mul_le_mul_right (10 ^ t.length) (show b - 48 ≤ 9 by omega)
    rw [valOf_cons, List.length_cons, pow_succ]
    omega

theorem valOf_render (n : Nat) : valOf (render n) = n := by
  induction n using digitsRev.induct with
  | case1 n h => rw [render_small h, valOf_singleton, Nat.add_sub_cancel_left]
  | case2 n h ih => rw [render_step h, valOf_snoc, ih, Nat.add_sub_cancel_left, Nat.div_add_mod']

theorem render_all (n : Nat) : (render n).all isDigit = true := by
  induction n using digitsRev.induct with
  | case1 n h => rw [render_small h, List.all_cons, List.all_nil, Bool.and_true, isDigit_iff]; omega
  | case2 n h ih =>
    rw [render_step h, List.all_append, ih, List.all_cons, List.all_nil, Bool.and_true,
      Bool.true_and, isDigit_iff]
    omega

theorem render_digits (n : Nat) : ∀ b ∈ render n, isDigit b = true :=
  List.all_eq_true.1 (render_all n)

theorem render_length_le (k : Nat) {n : Nat} (h : n < 10 ^ (k + 1)) : (render n).length ≤ k + 1 := by
  induction k generalizing n with
  | zero => rw [render_small h]; rfl
  | succ k ih =>
    by_cases h10 : n < 10
    · rw [render_small h10]; exact Nat.le_add_left 1 _
    · rw [render_step h10, List.length_append]
      exact Nat.succ_le_succ (ih (Nat.div_lt_of_lt_mul (by rw [pow_succ'] at h; exact h)))

theorem render_head {n : Nat} (hn : 0 < n) : ∃ b t, render n = b :: t ∧ b ≠ 48 := by
  induction n using digitsRev.induct with
  | case1 n h => exact ⟨48 + n, [], render_small h, by omega⟩
  | case2 n h ih =>
    obtain ⟨b, t, hr, hb⟩ := ih (by omega)
    exact ⟨b, t ++ [48 + n % 10], by rw [render_step h, hr]; rfl, hb⟩

theorem render_canonical (n : Nat) : canonicalInt (render n) = true := by
  unfold canonicalInt
  rw [render_all]
  rcases Nat.eq_zero_or_pos n with rfl | h
  · rw [render_small (by decide)]; rfl
  · obtain ⟨b, t, hr, hb⟩ := render_head h
    rw [hr]; simp [hb]

theorem not_dot_of_digits {s : List Nat} (h : ∀ b ∈ s, isDigit b = true) : 46 ∉ s :=
  fun hm => by have := isDigit_iff.1 (h 46 hm); omega

theorem le_foldl (acc : Nat) (s : List Nat) : acc ≤ s.foldl (fun a b => a * 10 + (b - 48)) acc := by
  rw [foldl_acc]
  exact Nat.le_add_right_of_le (Nat.le_mul_of_pos_right _ (Nat.pow_pos (by decide)))

theorem parseAux_ok_iff (s : List Nat) (acc v : Nat) (hacc : acc < U) :
    parseAux acc s = .ok v ↔ acc * 10 ^ s.length + valOf s = v ∧ v < U := by
  rw [← foldl_acc]
  fun_induction parseAux acc s with
  | case1 acc => rw [Except.ok.injEq]; exact ⟨fun e => ⟨e, e ▸ hacc⟩, And.left⟩
  | case2 acc b bs h ih => exact ih h
  | case3 acc b bs h =>
    exact ⟨nofun, fun ⟨e, hv⟩ => absurd (lt_of_le_of_lt (e ▸ le_foldl _ bs) hv) h⟩

theorem parseDigits_ok_iff {s : List Nat} {v : Nat} :
    parseDigits s = .ok v ↔ s.all isDigit = true ∧ valOf s = v ∧ v < U := by
  unfold parseDigits
  rw [ite_else_error_iff, parseAux_ok_iff s 0 v U_pos, Nat.zero_mul, Nat.zero_add]

theorem uint_parse_ok_iff {s : List Nat} {v : Nat} :
    uintParse s = .ok v ↔ s.all isDigit = true ∧ valOf s = v ∧ v < U :=
  parseDigits_ok_iff

theorem uint_render_canonical (v : Nat) :
    canonicalInt (uintRender v) = true ∧ valOf (uintRender v) = v :=
  ⟨render_canonical v, valOf_render v⟩

theorem uint_parse_render {v : Nat} (h : v < U) : uintParse (uintRender v) = .ok v :=
  uint_parse_ok_iff.2 ⟨render_all v, valOf_render v, h⟩

theorem splitDot_append {w : List Nat} (hw : 46 ∉ w) {r p : List Nat} {ps : List (List Nat)}
    (h : splitDot r = p :: ps) : splitDot (w ++ r) = (w ++ p) :: ps := by
  induction w with
  | nil => exact h
  | cons b t ih =>
    rw [List.cons_append, splitDot, if_neg (Ne.symm (List.ne_of_not_mem_cons hw)),
      ih (List.not_mem_of_not_mem_cons hw)]
    rfl

theorem splitDot_nodot {w : List Nat} (hw : 46 ∉ w) : splitDot w = [w] := by
  simpa using splitDot_append hw (r := []) rfl

theorem splitDot_dot {w : List Nat} (hw : 46 ∉ w) (rest : List Nat) :
    splitDot (w ++ 46 :: rest) = w :: splitDot rest := by
  simpa using splitDot_append hw (r := 46 :: rest) rfl

theorem splitDot_two {w f : List Nat} (hw : 46 ∉ w) (hf : 46 ∉ f) :
    splitDot (w ++ [46] ++ f) = [w, f] := by
  rw [List.append_assoc, List.singleton_append, splitDot_dot hw, splitDot_nodot hf]

theorem dec_parse_ok_iff {s : List Nat} {v : Nat} :
    decParse s = .ok v ↔ denote s = some v ∧ v < U := by
  unfold decParse denote
  -- in each case: on the left the parser's checks in source order, on the right the numeral's value and the one bound;
  -- the parser's earlier bounds follow from the last, since scaling and adding only make a number larger
  rcases splitDot s with _ | ⟨w, _ | ⟨f, _ | ⟨p, ps⟩⟩⟩
  · simp
  · simp only [bind_ok_iff, parseDigits_ok_iff, u256.mul_ok, and_assoc, exists_and_left, exists_eq_left',
      Option.ite_none_right_eq_some, Option.some.injEq]
    constructor
    · rintro ⟨hd, -, hlt, rfl⟩
      exact ⟨hd, rfl, hlt⟩
    · rintro ⟨hd, rfl, hlt⟩
      exact ⟨hd, lt_of_mul_lt E_pos hlt, hlt, rfl⟩
  · simp only [bind_ok_iff, parseDigits_ok_iff, ite_error_iff, u256.mul_ok, u256.add_ok, and_assoc,
      exists_and_left, exists_eq_left', exists_eq_left, Option.ite_none_right_eq_some, Option.some.injEq,
      Bool.and_eq_true, decide_eq_true_eq]
    constructor
    · rintro ⟨hw, -, hf, -, hl, -, -, hlt, rfl⟩
      exact ⟨hw, hf, Nat.le_of_not_lt hl, rfl, hlt⟩
    · rintro ⟨hw, hf, hl, rfl, hlt⟩
      have h1 := lt_of_le_of_lt (Nat.le_add_right _ _) hlt
      have h2 := lt_of_le_of_lt (Nat.le_add_left _ _) hlt
      exact ⟨hw, lt_of_mul_lt E_pos h1, hf, lt_of_mul_lt (Nat.pow_pos (by decide)) h2, Nat.not_lt_of_le hl,
        h1, h2, hlt, rfl⟩
  · simp

theorem dec_parse_19_digits {w f : List Nat} (hw : 46 ∉ w) (hf : 46 ∉ f) (h : 18 < f.length) :
    ∀ v, decParse (w ++ [46] ++ f) ≠ .ok v := by
  intro v hv
  have hd := (dec_parse_ok_iff.1 hv).1
  unfold denote at hd
  rw [splitDot_two hw hf] at hd
  simp only [Option.ite_none_right_eq_some, Bool.and_eq_true, decide_eq_true_eq] at hd
  exact Nat.not_le_of_lt h hd.1.2

theorem trimEnd0_spec (s : List Nat) :
    ∃ j, s = trimEnd0 s ++ List.replicate j 48 ∧
      (∀ b t, (trimEnd0 s).reverse = b :: t → b ≠ 48) := by
  unfold trimEnd0
  rw [List.reverse_reverse]
  refine ⟨(s.reverse.takeWhile (· = 48)).length, ?_, fun b t h => ?_⟩
  · have h48 : s.reverse.takeWhile (· = 48) = List.replicate _ 48 :=
      List.eq_replicate_iff.2
        ⟨rfl, fun b hb => of_decide_eq_true (List.all_eq_true.1 List.all_takeWhile b hb)⟩
    rw [← List.reverse_replicate, ← h48, ← List.reverse_append, List.takeWhile_append_dropWhile,
      List.reverse_reverse]
  · have := List.head?_dropWhile_not (· = 48) s.reverse
    rw [h] at this
    exact of_decide_eq_false this

theorem decRender_form (v : Nat) :
    (v % E = 0 ∧ decRender v = render (v / E)) ∨
    (∃ t, decRender v = render (v / E) ++ [46] ++ t ∧ (∀ b ∈ t, isDigit b = true) ∧
      1 ≤ t.length ∧ t.length ≤ 18 ∧ (∀ b u, t.reverse = b :: u → b ≠ 48) ∧
      valOf t * 10 ^ (18 - t.length) = v % E) := by
  have hr : v % E < 10 ^ 18 := E_eq ▸ Nat.mod_lt _ E_pos
  simp only [decRender]
  generalize v % E = r at hr ⊢
  by_cases h : r = 0
  · exact Or.inl ⟨h, if_pos h⟩
  · right
    rw [if_neg h]
    -- `r` padded to 18 digits is `t` followed by `j` zeros
    obtain ⟨j, h1, h2⟩ := trimEnd0_spec (List.replicate (18 - (render r).length) 48 ++ render r)
    generalize trimEnd0 _ = t at h1 h2 ⊢
    have hl := congrArg List.length h1
    rw [List.length_append, List.length_append, List.length_replicate, List.length_replicate,
      Nat.sub_add_cancel (render_length_le 17 hr)] at hl
    have hval := congrArg valOf h1
    rw [valOf_pad, valOf_render, valOf_trail] at hval
    have hne : t ≠ [] := by
      rintro rfl
      exact h (by rw [hval, valOf_nil, Nat.zero_mul])
    refine ⟨t, rfl, fun b hb => ?_, List.length_pos_iff.2 hne, Nat.le.intro hl.symm, h2, ?_⟩
    · rcases List.mem_append.1 (h1 ▸ List.mem_append_left _ hb) with hm | hm
      · rw [(List.mem_replicate.1 hm).2]; rfl
      · exact render_digits _ _ hm
    · rw [hval, Nat.eq_sub_of_add_eq' hl.symm]

theorem dec_render_canonical (v : Nat) :
    canonicalDec (decRender v) = true ∧ denote (decRender v) = some v := by
  have hw := not_dot_of_digits (render_digits (v / E))
  unfold canonicalDec denote
  rcases decRender_form v with ⟨h0, hr⟩ | ⟨t, hr, hd, h1, h18, hlast, hval⟩
  · rw [hr, splitDot_nodot hw]
    dsimp only
    rw [render_canonical, render_all, if_pos rfl, valOf_render,
      Nat.div_mul_cancel (Nat.dvd_of_mod_eq_zero h0)]
    exact ⟨rfl, rfl⟩
  · rw [hr, splitDot_two hw (not_dot_of_digits hd)]
    simp only [render_canonical, render_all, List.all_eq_true.2 hd, decide_eq_true h1,
      decide_eq_true h18, Bool.true_and, if_true, valOf_render, hval, Nat.div_add_mod']
    cases hrev : t.reverse with
    | nil => rw [List.reverse_eq_nil_iff.1 hrev] at h1; cases h1
    | cons b u => exact ⟨bne_iff_ne.2 (hlast b u hrev), trivial⟩

theorem dec_parse_render {v : Nat} (h : v < U) : decParse (decRender v) = .ok v :=
  dec_parse_ok_iff.2 ⟨(dec_render_canonical v).2, h⟩

theorem utf8Valid_ascii {s : List Nat} (h : ∀ b ∈ s, b < 128) : utf8Valid s = true := by
  unfold utf8Valid
  induction s with
  | nil => rfl
  | cons b t ih =>
    rw [utf8From, if_pos (h b List.mem_cons_self)]
    exact ih fun c hc => h c (List.mem_cons_of_mem _ hc)

/-- without a backslash the body is handed over as it is (if it is UTF-8) -/
theorem jsonUnescape_noesc {s : List Nat} (h : 92 ∉ s) :
    jsonUnescape s = if utf8Valid s then .ok s else .error .err := by
  unfold jsonUnescape
  rw [if_neg (by simpa using h)]

theorem jsonUnescape_id {s : List Nat} (h : ∀ b ∈ s, b ≠ 92 ∧ b < 128) : jsonUnescape s = .ok s := by
  rw [jsonUnescape_noesc fun hm => (h 92 hm).1 rfl, if_pos (utf8Valid_ascii fun b hb => (h b hb).2)]

theorem unescFrom_id {s : List Nat} (h : ∀ b ∈ s, 32 ≤ b ∧ b ≠ 92) :
    unescFrom .normal none s = .ok s := by
  induction s with
  | nil => rfl
  | cons b t ih =>
    obtain ⟨h1, h2⟩ := h b List.mem_cons_self
    rw [unescFrom, if_neg (by omega), if_neg h2, ih fun c hc => h c (List.mem_cons_of_mem _ hc)]
    rfl

/-- `unescape` too hands such a body over as it is: on printable ASCII without a backslash the owned and the borrowed
path of `parse_string` agree -/
theorem unescape_id {s : List Nat} (h : ∀ b ∈ s, 32 ≤ b ∧ b ≠ 92 ∧ b < 128) : unescape s = .ok s := by
  unfold unescape
  rw [unescFrom_id fun b hb => ⟨(h b hb).1, (h b hb).2.1⟩]
  exact if_pos (utf8Valid_ascii fun b hb => (h b hb).2.2)

theorem jsonScan_clean {s : List Nat} (h : ∀ b ∈ s, b ≠ 34 ∧ b ≠ 92) (t : List Nat) :
    jsonScan false (s ++ 34 :: t) = some (s, t) := by
  induction s with
  | nil => rfl
  | cons b u ih =>
    obtain ⟨h1, h2⟩ := h b List.mem_cons_self
    rw [List.cons_append, jsonScan, if_neg (fun hq => h1 hq.1), if_neg h2,
      ih fun c hc => h c (List.mem_cons_of_mem _ hc)]

theorem jsonScan_some {e : Bool} {l body tail : List Nat} (h : jsonScan e l = some (body, tail)) :
    l = body ++ 34 :: tail := by
  fun_induction jsonScan e l generalizing body with
  | case1 | case4 => cases h
  | case2 e b bs hq => cases h; rw [hq.1]; rfl
  | case3 e b bs hq bd tl hs ih => cases h; rw [ih hs]; rfl

theorem isJsonWs_34 : isJsonWs 34 = false := rfl

theorem jsonDec_enc {s : List Nat} (h : ∀ b ∈ s, b ≠ 34 ∧ b ≠ 92 ∧ b < 128) :
    jsonDec (jsonEnc s) = .ok s := by
  show jsonDec (34 :: (s ++ [34])) = .ok s
  unfold jsonDec
  rw [List.dropWhile_cons_of_neg (Bool.eq_false_iff.1 isJsonWs_34)]
  simp only [if_true, jsonScan_clean (fun b hb => ⟨(h b hb).1, (h b hb).2.1⟩), List.all_nil]
  exact jsonUnescape_id (fun b hb => (h b hb).2)

/-- an accepted JSON text is whitespace, a quoted body, whitespace; the result is the unescaped body -/
theorem jsonDec_ok {j s : List Nat} (h : jsonDec j = .ok s) :
    ∃ pre body post, j = pre ++ [34] ++ body ++ [34] ++ post ∧
      pre.all isJsonWs = true ∧ post.all isJsonWs = true ∧ jsonUnescape body = .ok s := by
  unfold jsonDec at h
  split at h
  · cases h
  · rename_i b rest hd
    obtain ⟨hb, h⟩ := ite_else_error_iff.1 h
    split at h
    · rename_i body tail hs
      obtain ⟨ht, h⟩ := ite_else_error_iff.1 h
      refine ⟨j.takeWhile isJsonWs, body, tail, ?_, List.all_takeWhile, ht, h⟩
      calc j = j.takeWhile isJsonWs ++ j.dropWhile isJsonWs := List.takeWhile_append_dropWhile.symm
        _ = _ := by rw [hd, hb, jsonScan_some hs]; simp
    · cases h

theorem json_parse_ok {P : List Nat → M Nat} {j : List Nat} {v : Nat} (h : (jsonDec j >>= P) = .ok v) :
    ∃ pre body post s, j = pre ++ [34] ++ body ++ [34] ++ post ∧
      pre.all isJsonWs = true ∧ post.all isJsonWs = true ∧ jsonUnescape body = .ok s ∧ P s = .ok v := by
  obtain ⟨s, hs, hp⟩ := (bind_ok_iff _ _ _).1 h
  obtain ⟨pre, body, post, hj, h1, h2, hu⟩ := jsonDec_ok hs
  exact ⟨pre, body, post, s, hj, h1, h2, hu, hp⟩

theorem printable_of_digit {b : Nat} (h : isDigit b = true ∨ b = 46) :
    b ≠ 34 ∧ b ≠ 92 ∧ b < 128 := by
  rcases h with h | h
  · rw [isDigit_iff] at h; omega
  · omega

theorem decRender_bytes (v : Nat) : ∀ b ∈ decRender v, isDigit b = true ∨ b = 46 := by
  rcases decRender_form v with ⟨_, hr⟩ | ⟨t, hr, hd, _⟩
  · rw [hr]; intro b hb; exact Or.inl (render_digits _ b hb)
  · rw [hr]; intro b hb
    simp only [List.mem_append, List.mem_singleton] at hb
    rcases hb with (hb | hb) | hb
    · exact Or.inl (render_digits _ b hb)
    · exact Or.inr hb
    · exact Or.inl (hd b hb)

/-- going through the text changes nothing: `Decimal256 → Decimal` is the limb check alone -/
theorem decToStd_eq {v : Nat} (h : v < U) : decToStd v = toU128 v := by
  unfold decToStd
  rw [dec_parse_render h, ← toU128, toU128_eq h]
  by_cases hw : v < W <;> simp only [hw, if_true, if_false]

theorem dec_to_std_iff {v r : Nat} (h : v < U) : decToStd v = .ok r ↔ v < W ∧ r = v := by
  rw [decToStd_eq h]; exact toU128_ok h

theorem dec_to_std_abort {v : Nat} (h : v < U) : decToStd v = .error .abort ↔ W ≤ v := by
  rw [decToStd_eq h, toU128_eq h]
  by_cases hw : v < W
  · rw [if_pos hw]; exact ⟨nofun, fun h' => absurd hw (Nat.not_lt_of_le h')⟩
  · rw [if_neg hw]; exact ⟨fun _ => Nat.le_of_not_lt hw, fun _ => rfl⟩

theorem dec_from_std_id {a : Nat} (h : a < W) : decFromStd a = .ok a := by
  unfold decFromStd
  rw [dec_parse_render (Nat.lt_trans h W_lt_U)]

end Halo.C18
