/-
C08 — proofs: range of results, order of limbs (the rounding bounds are `div_round` and are read off in `Props/C08`).
Core Lean only.
-/
import Halo.Proofs.Basic

namespace Halo.C08

theorem results_in_range {a b r : Nat} (ha : a < U) (_hb : b < U) :
    (Dec.add a b = .ok r → r < U) ∧ (Dec.sub a b = .ok r → r < U) ∧ (Dec.mul a b = .ok r → r < U) ∧
    (Dec.div a b = .ok r → r < U) ∧ (Dec.fromRatio a b = .ok r → r < U) ∧ (Dec.fromUint a = .ok r → r < U) ∧
    (Uint.mul a b = .ok r → r < U) ∧ (Uint.mulDec a b = .ok r → r < U) ∧ (Uint.divDec a b = .ok r → r < U) := by
  refine ⟨?_, ?_, ?_, ?_, ?_, ?_, ?_, ?_, ?_⟩
  · intro h; obtain ⟨h1, rfl⟩ := Dec.add_ok.mp h; exact h1
  · intro h; obtain ⟨_, rfl⟩ := Dec.sub_ok.mp h
    exact Nat.lt_of_le_of_lt (Nat.sub_le a b) ha
  · intro h; obtain ⟨h1, rfl⟩ := Dec.mul_ok.mp h; exact Nat.div_lt_of_lt h1
  · intro h; obtain ⟨_, h1, rfl⟩ := Dec.div_ok.mp h; exact Nat.div_lt_of_lt h1
  · intro h; obtain ⟨_, h1, rfl⟩ := Dec.fromRatio_ok.mp h; exact Nat.div_lt_of_lt h1
  · intro h; obtain ⟨h1, rfl⟩ := Dec.fromUint_ok.mp h; exact h1
  · intro h; obtain ⟨h1, rfl⟩ := Uint.mul_ok.mp h; exact h1
  · intro h; obtain ⟨h1, rfl⟩ := Uint.mulDec_ok.mp h; exact Nat.div_lt_of_lt h1
  · intro h; obtain ⟨_, h1, rfl⟩ := Uint.divDec_ok.mp h; exact Nat.div_lt_of_lt h1

theorem limbs_order {x y : Limbs} (hx : x.wf) (hy : y.wf) :
    x.value < y.value ↔
      (x.l3 < y.l3 ∨ (x.l3 = y.l3 ∧ (x.l2 < y.l2 ∨ (x.l2 = y.l2 ∧ (x.l1 < y.l1 ∨ (x.l1 = y.l1 ∧ x.l0 < y.l0)))))) := by
  obtain ⟨hx0, hx1, hx2, -⟩ := hx
  obtain ⟨hy0, hy1, hy2, -⟩ := hy
  -- the limbs below the `k`-th make up less than `L ^ k`, so each comparison is decided at the top limb
  have p2 {z : Limbs} (h0 : z.l0 < L) (h1 : z.l1 < L) : z.l0 + z.l1 * L < L ^ 2 := by
    rw [Nat.pow_two]; exact add_mul_lt h0 h1
  have p3 {z : Limbs} (h : z.l0 + z.l1 * L < L ^ 2) (h2 : z.l2 < L) :
      z.l0 + z.l1 * L + z.l2 * L ^ 2 < L ^ 3 := by
    rw [Nat.pow_succ' (m := L) (n := 2)]; exact add_mul_lt h h2
  unfold Limbs.value
  rw [add_mul_lt_add_mul_iff (p3 (p2 hx0 hx1) hx2) (p3 (p2 hy0 hy1) hy2),
    add_mul_lt_add_mul_iff (p2 hx0 hx1) (p2 hy0 hy1), add_mul_lt_add_mul_iff hx0 hy0]

end Halo.C08
