/-
C12 at system level: a pair's forward simulation of an offer returns exactly the return, spread and
commission that an immediately following swap of the same offer produces whenever that swap
succeeds; the router's simulations are the hop-by-hop composition of the pair queries.
-/
import Halo.Proofs.C02

namespace Halo.Props.C12W

/-- direct swap carrying exactly the offer -/
theorem sim_eq_exec_native {w w' : World} {s p d amt : Nat} {b ms to : Option Nat} {o : SwapOut} {P : PairSt}
    (hP : w.pair p = some P) (hne : P.a0 ≠ P.a1) (hsp : s ≠ p)
    (h : pairExec w s p [(d, amt)] (.swap (.native d) amt b ms to) = .ok (w', .swap o)) :
    qSimulation w p (.native d) amt = .ok (o.ret, o.spread, o.comm) :=
  Halo.C02.sim_eq_exec_native hP hne hsp h

/-- swap through a cw20 hook -/
theorem sim_eq_exec_hook {w w' : World} {t u p amt : Nat} {b ms to : Option Nat} {o : SwapOut} {P : PairSt}
    (hP : w.pair p = some P) (hne : P.a0 ≠ P.a1) (hup : u ≠ p)
    (h : tokSendPair w t u p amt (.swap (.token t) amt b ms to) = .ok (w', .swap o)) :
    qSimulation w p (.token t) amt = .ok (o.ret, o.spread, o.comm) :=
  Halo.C02.sim_eq_exec_hook hP hne hup h

/-- the simulation is the pricing function on the current reserves -/
theorem sim_is_pricing {w : World} {p : Nat} {P : PairSt} {offer : Asset} {amt : Nat} {r : Nat × Nat × Nat}
    (hP : w.pair p = some P) (h : qSimulation w p offer amt = .ok r) :
    (offer = P.a0 ∧ computeSwap (bal w P.a0 p) (bal w P.a1 p) amt P.comm = .ok r) ∨
    (offer ≠ P.a0 ∧ offer = P.a1 ∧ computeSwap (bal w P.a1 p) (bal w P.a0 p) amt P.comm = .ok r) :=
  Halo.C02.sim_is_pricing hP h

/-- reverse simulation is the reverse formula on the current reserves (bounds against the closed form: Halo.Props.C12) -/
theorem rsim_is_pricing {w : World} {p : Nat} {P : PairSt} {ask : Asset} {amt : Nat} {r : Nat × Nat × Nat}
    (hP : w.pair p = some P) (h : qReverseSimulation w p ask amt = .ok r) :
    (ask = P.a0 ∧ computeOfferAmount (bal w P.a1 p) (bal w P.a0 p) amt P.comm = .ok r) ∨
    (ask ≠ P.a0 ∧ ask = P.a1 ∧ computeOfferAmount (bal w P.a0 p) (bal w P.a1 p) amt P.comm = .ok r) :=
  Halo.C02.rsim_is_pricing hP h

/-- router forward simulation = left fold of the pairs' simulations over the hops -/
theorem router_sim_nil (w : World) (amt : Nat) : routerSimulate w amt [] = .ok amt := rfl
theorem router_sim_cons {w : World} {amt n : Nat} {o a : Asset} {rest : List (Asset × Asset)} {R : Record} {s k : Nat}
    (hR : facLookup w o a = some R) (hq : qSimulation w R.pair o amt = .ok (n, s, k)) :
    routerSimulate w amt ((o, a) :: rest) = routerSimulate w n rest :=
  Halo.C02.router_sim_cons hR hq

/-- router reverse simulation = right fold of the pairs' reverse simulations -/
theorem router_rev_nil (w : World) (amt : Nat) : routerReverse w amt [] = .ok amt := rfl
theorem router_rev_cons {w : World} {amt need x : Nat} {o a : Asset} {rest : List (Asset × Asset)} {R : Record} {s k : Nat}
    (hrest : routerReverse w amt rest = .ok need) (hR : facLookup w o a = some R)
    (hq : qReverseSimulation w R.pair a need = .ok (x, s, k)) :
    routerReverse w amt ((o, a) :: rest) = .ok x :=
  Halo.C02.router_rev_cons hrest hR hq

end Halo.Props.C12W
