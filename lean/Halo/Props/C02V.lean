/-
C02V — address validation (`deps.api.addr_validate`).

Every user-supplied address string is validated before it is used:
  pair     `Swap { to }` (direct and cw20 hook), the cw20 sender of `WithdrawLiquidity`;
           the receiver of `ProvideLiquidity` is validated by the LP token's `Mint { recipient }` (cw20-base);
  router   `to` of `ExecuteSwapOperations` (direct and hook) and of `ExecuteSwapOperation`, `receiver` of
           `AssertMinimumReceive`, the cw20 sender of the hook;
  factory  the new owner of `UpdateConfig`.
`World.badAddr a` says that the account id `a` stands for a string that fails the check (too short, not normalised —
e.g. an upper-case spelling); `validatedAddrs op` lists the strings an operation submits to the check.

An operation that names a bad address where one is validated is REJECTED and changes nothing — it is not silently
re-routed to the caller (a defect such as `to.and_then(|t| api.addr_validate(&t).ok())` would pay the caller instead).
Conversely the "designated receiver" that C02 / C13 speak about is, for every successful swap or route, a validated
address.  `badAddr` is a fact of the environment: no operation changes it.
-/
import Halo.Proofs.Valid

namespace Halo.Props.C02V

/-- every address string a successful operation submitted for validation is a valid address -/
theorem exec_ok_validated {name : Asset → String} {w w' : World} {op : Op} {out : Out}
    (h : exec name w op = .ok (w', out)) : ∀ a ∈ validatedAddrs op, w.badAddr a = false :=
  Halo.Valid.exec_ok_validated h

/-- an operation that names a bad address where one is validated does not succeed … -/
theorem bad_rejected {name : Asset → String} {w : World} {op : Op} {a : Nat}
    (ha : a ∈ validatedAddrs op) (hbad : w.badAddr a = true) (r : World × Out) : exec name w op ≠ .ok r :=
  Halo.Valid.bad_rejected ha hbad r

/-- … and, transactions being atomic, changes nothing -/
theorem bad_step {name : Asset → String} {w : World} {op : Op} {a : Nat}
    (ha : a ∈ validatedAddrs op) (hbad : w.badAddr a = true) : step name w op = w :=
  Halo.Valid.bad_step ha hbad

/-- a direct swap, a hook swap (`Send`) and a hook swap by a spender (`SendFrom`) whose `to` is a bad address are
rejected and change nothing -/
theorem swap_bad_to_rejected {name : Asset → String} {w : World} {a : Nat} (hbad : w.badAddr a = true) :
    (∀ s p f offer amt b ms, step name w (.pair s p f (.swap offer amt b ms (some a))) = w) ∧
    (∀ t s p amt offer a' b ms, step name w (.tokSend t s p amt (.swap offer a' b ms (some a))) = w) ∧
    (∀ t sp o p amt offer a' b ms, step name w (.tokSendFrom t sp o p amt (.swap offer a' b ms (some a))) = w) :=
  ⟨fun _ _ _ _ _ _ _ => Valid.bad_step (.head _) hbad,
   fun _ _ _ _ _ _ _ _ => Valid.bad_step (.head _) hbad,
   fun _ _ _ _ _ _ _ _ _ => Valid.bad_step (.head _) hbad⟩

/-- the same for the three entry points of a route -/
theorem route_bad_to_rejected {name : Asset → String} {w : World} {a : Nat} (hbad : w.badAddr a = true) :
    (∀ s f ops mn, step name w (.router s f (.swapOps ops mn (some a))) = w) ∧
    (∀ t s amt ops mn, step name w (.tokSend t s w.router amt (.routerOps ops mn (some a))) = w) ∧
    (∀ t sp o amt ops mn, step name w (.tokSendFrom t sp o w.router amt (.routerOps ops mn (some a))) = w) :=
  ⟨fun _ _ _ _ => Valid.bad_step (.head _) hbad,
   fun _ _ _ _ _ => Valid.bad_step (.tail _ (.head _)) hbad,
   fun _ _ _ _ _ _ => Valid.bad_step (.tail _ (.head _)) hbad⟩

/-- a provision whose receiver is a bad address fails (in the LP token's `Mint`) and changes nothing -/
theorem provide_bad_receiver_rejected {name : Asset → String} {w : World} {a : Nat} (hbad : w.badAddr a = true)
    (s p : Nat) (f : List (Nat × Nat)) (as0 : Asset) (am0 : Nat) (as1 : Asset) (am1 : Nat) (tol : Option Nat) :
    step name w (.pair s p f (.provide as0 am0 as1 am1 tol (some a))) = w :=
  Valid.bad_step (.head _) hbad

/-- `UpdateConfig` with a bad new owner is rejected and changes nothing (whoever sends it) -/
theorem config_bad_owner_rejected {name : Asset → String} {w : World} {a : Nat} (hbad : w.badAddr a = true)
    (s : Nat) (f : List (Nat × Nat)) (tc pc : Option Nat) :
    step name w (.factory s f (.updateConfig (some a) tc pc)) = w :=
  Valid.bad_step (.head _) hbad

/-- a withdrawal whose cw20 sender is a bad address, and a route hook whose cw20 sender is one, are rejected -/
theorem hook_bad_sender_rejected {name : Asset → String} {w : World} {a : Nat} (hbad : w.badAddr a = true) :
    (∀ t p amt, step name w (.tokSend t a p amt .withdraw) = w) ∧
    (∀ t d amt ops mn dst, step name w (.tokSend t a d amt (.routerOps ops mn dst)) = w) :=
  ⟨fun _ _ _ => Valid.bad_step (.head _) hbad, fun _ _ _ _ _ _ => Valid.bad_step (.head _) hbad⟩

/-- the contrapositive: the designated receiver of a successful swap or route is a validated address -/
theorem successful_swap_to_is_valid {name : Asset → String} {w w' : World} {out : Out} {a : Nat} :
    (∀ s p f offer amt b ms, exec name w (.pair s p f (.swap offer amt b ms (some a))) = .ok (w', out) →
      w.badAddr a = false) ∧
    (∀ t s p amt offer a' b ms, exec name w (.tokSend t s p amt (.swap offer a' b ms (some a))) = .ok (w', out) →
      w.badAddr a = false) ∧
    (∀ t sp o p amt offer a' b ms,
      exec name w (.tokSendFrom t sp o p amt (.swap offer a' b ms (some a))) = .ok (w', out) → w.badAddr a = false) ∧
    (∀ s f ops mn, exec name w (.router s f (.swapOps ops mn (some a))) = .ok (w', out) → w.badAddr a = false) ∧
    (∀ t s d amt ops mn, exec name w (.tokSend t s d amt (.routerOps ops mn (some a))) = .ok (w', out) →
      w.badAddr a = false) ∧
    (∀ t sp o d amt ops mn, exec name w (.tokSendFrom t sp o d amt (.routerOps ops mn (some a))) = .ok (w', out) →
      w.badAddr a = false) :=
  Halo.Valid.successful_swap_to_is_valid

/-- the same at the level of the handlers the statements of C02 / C13 are about (`pairExec`, `tokSendPair`,
`routerExec`, `routerReceive`): success implies that the optional `to` passed validation -/
theorem handler_to_is_valid {name : Asset → String} {w : World} {dst : Option Nat} :
    (∀ s p f offer amt b ms r, pairExec w s p f (.swap offer amt b ms dst) = .ok r → badTo w dst = false) ∧
    (∀ t u p amt offer a' b ms r, tokSendPair w t u p amt (.swap offer a' b ms dst) = .ok r → badTo w dst = false) ∧
    (∀ s f ops mn w', routerExec name w s f (.swapOps ops mn dst) = .ok w' → badTo w dst = false) ∧
    (∀ from_ ops mn w', routerReceive name w from_ (.routerOps ops mn dst) = .ok w' → badTo w dst = false) :=
  Halo.Valid.handler_to_is_valid

/-- no operation changes which address strings are invalid -/
theorem badAddr_static {name : Asset → String} {w w' : World} {op : Op} {out : Out}
    (h : exec name w op = .ok (w', out)) : w'.badAddr = w.badAddr :=
  Halo.RegOKP.badAddr_exec h

/-- along any history -/
theorem badAddr_static_run {name : Asset → String} (ops : List Op) (w : World) :
    (run name w ops).badAddr = w.badAddr :=
  Halo.RegOKP.badAddr_run ops w

end Halo.Props.C02V
