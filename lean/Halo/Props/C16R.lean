/-
C16 over histories: what the factory registered stays registered.  A created pair is registered under both
orders of its assets, with the true decimals; no operation ever removes or re-points a registry entry (only the
decimals of an entry can be re-registered); hence a pair created through the factory can be looked up in both
orders after any later history, and the registry invariant `RegOK` holds in every reachable state.
`RegRun` (Halo/Proofs/Reach.lean) is the run-level form of the side conditions of `C16W.regOK_step`: no message
to a pair is sent by the factory contract itself, new pair addresses are unused; `ValidRun` implies it.
-/
import Halo.Proofs.Reach

namespace Halo.Props.C16R
open Halo.Reach

/-- a created pair is registered afterwards, under both orders of its assets -/
theorem created_registered {w w' : World} {s : Nat} {a0 a1 : Asset} {req : Requirements} {comm lpDec : Option Nat}
    {np nl : Nat} (hr : RegOK w) (h : facCreatePair w s a0 a1 req comm lpDec np nl = .ok w') :
    ∃ R, facLookup w' a0 a1 = some R ∧ facLookup w' a1 a0 = some R ∧ R.pair = np ∧ R.lp = nl ∧ R.a0 = a0 ∧
      R.a1 = a1 :=
  Halo.Reach.created_registered hr h

/-- two lookups that return the same pair address are over the same unordered pair of raw identifiers — and, when
the four queried assets are live, over the same unordered asset set -/
theorem lookup_distinct_addr {w : World} (hr : RegOK w) (hraw : RawOK w) {a b c d : Asset} {R1 R2 : Record}
    (h1 : facLookup w a b = some R1) (h2 : facLookup w c d = some R2) (hp : R1.pair = R2.pair) :
    ((w.rawId a = w.rawId c ∧ w.rawId b = w.rawId d) ∨ (w.rawId a = w.rawId d ∧ w.rawId b = w.rawId c)) ∧
    (Live w a → Live w b → Live w c → Live w d → (a = c ∧ b = d) ∨ (a = d ∧ b = c)) :=
  Halo.Reach.lookup_distinct_addr hr hraw h1 h2 hp

/-- the pair contract a creation instantiates describes itself with the created assets and LP token and with the
true decimals of both assets -/
theorem create_records_decimals {w w' : World} {s : Nat} {a0 a1 : Asset} {req : Requirements}
    {comm lpDec : Option Nat} {np nl : Nat} (h : facCreatePair w s a0 a1 req comm lpDec np nl = .ok w') :
    ∃ P, w'.pair np = some P ∧ P.a0 = a0 ∧ P.a1 = a1 ∧ P.lp = nl ∧
      assetDecimals w a0 = .ok P.d0 ∧ assetDecimals w a1 = .ok P.d1 :=
  Halo.Reach.create_records_decimals h

/-- one operation: every key present in the registry is still present, with a record for the same pair, LP token,
assets, requirements and commission (the decimals may change through `AddNativeTokenDecimals`) -/
theorem registry_only_grows {name : Asset → String} {w w' : World} {op : Op} {out : Out} (hr : RegOK w)
    (h : exec name w op = .ok (w', out)) :
    ∀ k R, regLookup k w.registry = some R → ∃ R', regLookup k w'.registry = some R' ∧ R'.pair = R.pair ∧
      R'.lp = R.lp ∧ R'.a0 = R.a0 ∧ R'.a1 = R.a1 ∧ R'.req = R.req ∧ R'.comm = R.comm :=
  Halo.Reach.registry_only_grows hr h

/-- the registry invariant holds after every history whose steps are not sent to a pair by the factory contract and
allocate unused pair addresses; so does the environment assumption `RawOK` when moreover every newly live asset gets
a fresh raw identifier (`RawRun`, see `rawOK_run`) -/
theorem regOK_run {name : Asset → String} (ops : List Op) (w : World) (hr : RegOK w) (hraw : RawOK w)
    (hrun : RegRun name w ops) : RegOK (run name w ops) ∧ (RawRun name w ops → RawOK (run name w ops)) :=
  Halo.Reach.regOK_run ops w hr hraw hrun

/-- the invariant alone needs no assumption on raw identifiers -/
theorem regOK_run_only {name : Asset → String} (ops : List Op) (w : World) (hr : RegOK w)
    (hrun : RegRun name w ops) : RegOK (run name w ops) :=
  (Halo.Reach.regOK_regGrows_run ops w hr hrun).1

/-- histories of external actors' operations are such histories -/
theorem regRun_of_validRun {name : Asset → String} (ops : List Op) (w : World) (h : ValidRun name w ops) :
    RegRun name w ops :=
  Reach.StepsOK.mono Reach.regStepOK_of_valid ops w (Reach.stepsOK_of_validRun ops w h)

/-- `RawOK` speaks about `rawId`, which no operation changes, and about the live assets, whose set only grows
(`live_run`) — by the LP token of a created pair and by the denom of an `AddNativeTokenDecimals` (`NewLive`).  It is
preserved by an operation when the asset the operation makes live carries a raw identifier no other live asset
carries (`RawFreshOK`: the chain allocates a fresh address to the LP token; the owner registers a denom that is not
the raw identifier of a live asset) … -/
theorem rawOK_step {name : Asset → String} {w w' : World} {op : Op} {out : Out} (hraw : RawOK w)
    (hf : RawFreshOK w op)
    (h : exec name w op = .ok (w', out)) : RawOK w' :=
  Halo.Reach.rawOK_step hraw hf h

/-- … in particular, unconditionally, by every operation that makes no further asset live -/
theorem rawOK_step_of_no_new {name : Asset → String} {w w' : World} {op : Op} {out : Out} (hraw : RawOK w)
    (hn : ∀ b, Halo.RegOKP.NewLive op b → Live w b) (h : exec name w op = .ok (w', out)) : RawOK w' :=
  Reach.rawOK_step hraw (fun a b la nb hne e => hne (hraw.inj a b la (hn b nb) e)) h

/-- … and so along every history whose steps satisfy `RawFreshOK` (`RawRun`).  The side condition is the price of an
assumption that holds in worlds with aliased non-live identifiers: `RawOK` is injectivity of `rawId` on the live assets
only, and their set grows. -/
theorem rawOK_run {name : Asset → String} (ops : List Op) (w : World) (hraw : RawOK w) (hrun : RawRun name w ops) :
    RawOK (run name w ops) :=
  Halo.Reach.rawOK_run ops w hraw hrun

/-- `RawFreshOK` for the two operations that can make an asset live -/
theorem rawFreshOK_createPair {w : World} {s : Nat} {f : List (Nat × Nat)} {a0 a1 : Asset} {req : Requirements}
    {c ld : Option Nat} {np nl : Nat} :
    RawFreshOK w (.factory s f (.createPair a0 a1 req c ld np nl)) ↔
      ∀ a, Live w a → a ≠ .token nl → w.rawId a ≠ w.rawId (.token nl) :=
  Halo.Reach.rawFreshOK_createPair

theorem rawFreshOK_addDecimals {w : World} {s : Nat} {f : List (Nat × Nat)} {d k : Nat} :
    RawFreshOK w (.factory s f (.addDecimals d k)) ↔
      ∀ a, Live w a → a ≠ .native d → w.rawId a ≠ w.rawId (.native d) :=
  Halo.Reach.rawFreshOK_addDecimals

/-- liveness is never revoked along a history -/
theorem live_run {name : Asset → String} (ops : List Op) (w : World) {a : Asset} (hl : Live w a) :
    Live (run name w ops) a :=
  Halo.RegOKP.live_run ops w hl

/-- whatever is registered stays registered, for the same pair, after any later history -/
theorem registered_forever {name : Asset → String} (ops : List Op) (w : World) (hr : RegOK w) (hraw : RawOK w)
    (hrun : RegRun name w ops) :
    ∀ k R, regLookup k w.registry = some R → ∃ R', regLookup k (run name w ops).registry = some R' ∧
      R'.pair = R.pair ∧ R'.lp = R.lp ∧ R'.a0 = R.a0 ∧ R'.a1 = R.a1 ∧ R'.req = R.req ∧ R'.comm = R.comm :=
  Halo.Reach.registered_forever ops w hr hraw hrun

/-- in terms of the factory's pair query: a successful lookup keeps succeeding, in both orders -/
theorem lookup_forever {name : Asset → String} (ops : List Op) (w : World) (hr : RegOK w) (hraw : RawOK w)
    (hrun : RegRun name w ops) {a b : Asset} {R : Record} (h : facLookup w a b = some R) :
    ∃ R', facLookup (run name w ops) a b = some R' ∧ facLookup (run name w ops) b a = some R' ∧
      R'.pair = R.pair ∧ R'.lp = R.lp ∧ R'.a0 = R.a0 ∧ R'.a1 = R.a1 ∧ R'.req = R.req ∧ R'.comm = R.comm :=
  Reach.lookup_forever ops w hr hrun h

/-- a pair created through the factory can be looked up in both orders after any later history -/
theorem created_registered_forever {name : Asset → String} {w w' : World} {s : Nat} {a0 a1 : Asset}
    {req : Requirements} {comm lpDec : Option Nat} {np nl : Nat} (hr : RegOK w) (hraw : RawOK w)
    (hfresh : w.pair np = none) (h : facCreatePair w s a0 a1 req comm lpDec np nl = .ok w')
    (ops : List Op) (hrun : RegRun name w' ops) :
    ∃ R, facLookup (run name w' ops) a0 a1 = some R ∧ facLookup (run name w' ops) a1 a0 = some R ∧
      R.pair = np ∧ R.lp = nl ∧ R.a0 = a0 ∧ R.a1 = a1 :=
  Halo.Reach.created_registered_forever hr hraw hfresh h ops hrun

end Halo.Props.C16R
