/-
C19 — pair listing pagination is complete and duplicate-free.
The registry is a key-sorted association list (`PAIRS`); a page is `read_pairs` (exclusive start
`cursor ++ [1]`, `take (min (limit or 10) 30)`); the walk continues after the last entry returned.
-/
import Halo.Proofs.C19

namespace Halo.Props.C19

/-- a page never exceeds 30 entries, defaults to 10, and never exceeds the requested limit -/
theorem page_le_30 {α} (reg : List (Bytes × α)) (c : Option Bytes) (lim : Option Nat) :
    (readPairs reg c lim).length ≤ 30 := Halo.C19.page_le_30 reg c lim
theorem page_default_10 {α} (reg : List (Bytes × α)) (c : Option Bytes) :
    (readPairs reg c none).length ≤ 10 := Halo.C19.page_default_10 reg c
theorem page_le_limit {α} (reg : List (Bytes × α)) (c : Option Bytes) (k : Nat) :
    (readPairs reg c (some k)).length ≤ k := Halo.C19.page_le_limit reg c k

/-- the exclusive bound `cursor ++ [1]` means "strictly after the cursor" for every key that does not
extend the cursor by a NUL-leading suffix or by exactly `[1]` -/
theorem rangeStart_lt_iff {c k : Bytes} (h : NoLowExt1 c k) : rangeStart c < k ↔ c < k :=
  Halo.C19.rangeStart_lt_iff h

/-- walking with any page size (absent, or ≥ 1), each time continuing after the last pair returned,
visits every registered pair exactly once, in order, and then ends -/
theorem walk_complete {α} (reg : List (Bytes × α)) (lim : Option Nat) (hl : lim ≠ some 0)
    (hs : reg.Pairwise (fun e f => e.1 < f.1)) (hno : NoLowExt reg) :
    walk reg lim = reg := Halo.C19.walk_complete reg lim hl hs hno

/-- more fuel than `length + 1` pages changes nothing: the walk has ended -/
theorem walk_fuel_irrelevant {α} (reg : List (Bytes × α)) (lim : Option Nat) (hl : lim ≠ some 0)
    (hs : reg.Pairwise (fun e f => e.1 < f.1)) (hno : NoLowExt reg) (f : Nat) (hf : reg.length + 1 ≤ f) :
    walkFuel reg lim f none = reg := Halo.C19.walk_fuel_irrelevant reg lim hl hs hno f hf

/-- `NoLowExt` holds for registry keys (`pair_key`, with its length prefix) whenever every identifier byte is ≥ 2 —
in particular for all Cosmos-SDK denoms `[a-zA-Z][a-zA-Z0-9/:._-]{2,127}` -/
theorem noLowExt_of_ids_ge_2 {α} (reg : List (Bytes × α))
    (h : ∀ e ∈ reg, ∃ a b : Bytes, e.1 = pairKey a b ∧ (∀ x ∈ a, 2 ≤ x) ∧ (∀ x ∈ b, 2 ≤ x)) :
    NoLowExt reg := Halo.C19.noLowExt_of_ids_ge_2 reg h

/-- the hypothesis is necessary: with a key extended by a NUL byte the walk skips a pair
(such identifiers are outside the denom alphabet; DESIGN §7 "observed, not findings") -/
theorem walk_needs_hypothesis :
    walk [([5], 0), ([5, 0], 1), ([6], 2)] (some 1) ≠ [([5], 0), ([5, 0], 1), ([6], 2)] := by decide

/-- `PAIRS.save` keeps the registry sorted, so sortedness holds in every reachable state -/
theorem regInsert_sorted {α} (k : Bytes) (v : α) (reg : List (Bytes × α))
    (hs : reg.Pairwise (fun e f => e.1 < f.1)) : (regInsert k v reg).Pairwise (fun e f => e.1 < f.1) :=
  Halo.C19.regInsert_sorted k v reg hs

example : walk [([1, 2], 0), ([1, 3], 1), ([2], 2), ([2, 5], 3)] (some 3) = [([1, 2], 0), ([1, 3], 1), ([2], 2), ([2, 5], 3)] := by decide

end Halo.Props.C19
