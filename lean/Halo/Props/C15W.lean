/-
C15 at system level (call sites): `Halo/Props/C15.lean` proves what `assert_slippage_tolerance` means
as a function.  Here: every accepted provision — inside the handler and as a whole transaction — passed
it on (the deposits in pair order, the reserves net of the native deposits already credited), and a
provision (transaction) failing with the typed guard error was rejected by that very call.
`w0` is the world at handler entry (attached funds credited).
-/
import Halo.Proofs.CallSites

namespace Halo.Props.C15W

/-- an accepted `provide_liquidity` passed the slippage guard; with `Halo.Props.C15.slippage_sound` the
C15 bound follows for `tol = some t` -/
theorem provide_passed_guard {w w' : World} {p : Nat} {P : PairSt} {s : Nat} {funds : List (Nat × Nat)}
    {as0 as1 : Asset} {am0 am1 : Nat} {tol rcv : Option Nat} {m : Nat}
    (h : pairProvide w p P s funds as0 am0 as1 am1 tol rcv = .ok (w', m)) :
    ∃ d0 d1,
      ((as0 = P.a0 ∧ d0 = am0) ∨ (as0 ≠ P.a0 ∧ as1 = P.a0 ∧ d0 = am1)) ∧
      ((as0 = P.a1 ∧ d1 = am0) ∨ (as0 ≠ P.a1 ∧ as1 = P.a1 ∧ d1 = am1)) ∧
      assertSlippage tol d0 d1
        (match P.a0 with | .native _ => bal w P.a0 p - d0 | .token _ => bal w P.a0 p)
        (match P.a1 with | .native _ => bal w P.a1 p - d1 | .token _ => bal w P.a1 p) = .ok () :=
  Halo.CallSites.provide_passed_guard h

/-- the only source of a `.guard` error in `provide_liquidity` is `assert_slippage_tolerance` on exactly
those arguments (`Halo.Props.C15.slippage_complete` then says why) -/
theorem provide_guard_rejection {w : World} {p : Nat} {P : PairSt} {s : Nat} {funds : List (Nat × Nat)}
    {as0 as1 : Asset} {am0 am1 : Nat} {tol rcv : Option Nat}
    (h : pairProvide w p P s funds as0 am0 as1 am1 tol rcv = .error .guard) :
    ∃ d0 d1,
      ((as0 = P.a0 ∧ d0 = am0) ∨ (as0 ≠ P.a0 ∧ as1 = P.a0 ∧ d0 = am1)) ∧
      ((as0 = P.a1 ∧ d1 = am0) ∨ (as0 ≠ P.a1 ∧ as1 = P.a1 ∧ d1 = am1)) ∧
      assertSlippage tol d0 d1
        (match P.a0 with | .native _ => bal w P.a0 p - d0 | .token _ => bal w P.a0 p)
        (match P.a1 with | .native _ => bal w P.a1 p - d1 | .token _ => bal w P.a1 p) = .error .guard :=
  Halo.CallSites.provide_guard_rejection h

/-- the transaction, success -/
theorem exec_provide_passed_guard {w w' : World} {s p : Nat} {funds : List (Nat × Nat)}
    {as0 as1 : Asset} {am0 am1 : Nat} {tol rcv : Option Nat} {out : Out}
    (h : pairExec w s p funds (.provide as0 am0 as1 am1 tol rcv) = .ok (w', out)) :
    ∃ P w0 d0 d1, w.pair p = some P ∧ attach w s p funds = .ok w0 ∧
      ((as0 = P.a0 ∧ d0 = am0) ∨ (as0 ≠ P.a0 ∧ as1 = P.a0 ∧ d0 = am1)) ∧
      ((as0 = P.a1 ∧ d1 = am0) ∨ (as0 ≠ P.a1 ∧ as1 = P.a1 ∧ d1 = am1)) ∧
      assertSlippage tol d0 d1
        (match P.a0 with | .native _ => bal w0 P.a0 p - d0 | .token _ => bal w0 P.a0 p)
        (match P.a1 with | .native _ => bal w0 P.a1 p - d1 | .token _ => bal w0 P.a1 p) = .ok () := by
  obtain ⟨P, w0, hP, h0, _, _, hp, _⟩ := pairExec_ok h
  obtain ⟨d0, d1, g⟩ := CallSites.provide_passed_guard hp
  exact ⟨P, w0, d0, d1, hP, h0, g⟩

/-- the transaction, guard rejection: neither the funds transfer nor any message of the response
produces the guard error -/
theorem exec_provide_guard_rejection {w : World} {s p : Nat} {funds : List (Nat × Nat)}
    {as0 as1 : Asset} {am0 am1 : Nat} {tol rcv : Option Nat}
    (h : pairExec w s p funds (.provide as0 am0 as1 am1 tol rcv) = .error .guard) :
    ∃ P w0 d0 d1, w.pair p = some P ∧ attach w s p funds = .ok w0 ∧
      ((as0 = P.a0 ∧ d0 = am0) ∨ (as0 ≠ P.a0 ∧ as1 = P.a0 ∧ d0 = am1)) ∧
      ((as0 = P.a1 ∧ d1 = am0) ∨ (as0 ≠ P.a1 ∧ as1 = P.a1 ∧ d1 = am1)) ∧
      assertSlippage tol d0 d1
        (match P.a0 with | .native _ => bal w0 P.a0 p - d0 | .token _ => bal w0 P.a0 p)
        (match P.a1 with | .native _ => bal w0 P.a1 p - d1 | .token _ => bal w0 P.a1 p) = .error .guard := by
  obtain ⟨P, w0, hP, h0, hp⟩ := CallSites.pairExec_guard h
  obtain ⟨d0, d1, g⟩ := CallSites.provide_guard_rejection hp
  exact ⟨P, w0, d0, d1, hP, h0, g⟩

end Halo.Props.C15W
