/-
C05 — the reserved unit is reserved forever: once the LP supply of a pair is positive, after any history of
external actors' operations the LP token's own address still holds at least one unit, and the supply is still
positive.
-/
import Halo.Proofs.C03G

namespace Halo.Props.C05R

theorem reserved_unit_forever {name : Asset → String} {p : Nat} {a0 a1 : Asset} {lp : Nat} (ops : List Op)
    (w : World) (hinv : PairInv w p a0 a1 lp) (hv : ValidRun name w ops) (hpos : 0 < supply w lp) :
    1 ≤ bal (run name w ops) (.token lp) lp ∧ 0 < supply (run name w ops) lp :=
  Halo.Reach.reserved_unit_forever ops w hinv hv hpos

end Halo.Props.C05R
