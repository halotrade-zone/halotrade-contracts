/-
C08 — 256-bit arithmetic is exact or aborts, never silently wrong.

For every operation: `op a b = ok r ↔ guard ∧ r = exact`, where `exact` is the mathematical result
(floor division where the result type requires rounding toward zero) and `guard` is precisely
"divisor non-zero ∧ every intermediate product / the sum < 2^256 ∧ difference non-negative".
The `bigint::U256` operators themselves are assumed exact-or-panic (`Halo.u256.*`, DESIGN §8) and
exercised against the implementation by the `bignum` correspondence family.
-/
import Halo.Proofs.C08

namespace Halo.Props.C08

theorem dec_add_spec {a b r : Nat} : Dec.add a b = .ok r ↔ a + b < U ∧ r = a + b := Dec.add_ok
theorem dec_sub_spec {a b r : Nat} : Dec.sub a b = .ok r ↔ b ≤ a ∧ r = a - b := Dec.sub_ok
theorem dec_mul_spec {a b r : Nat} : Dec.mul a b = .ok r ↔ a * b < U ∧ r = a * b / E := Dec.mul_ok
theorem dec_div_spec {a b r : Nat} : Dec.div a b = .ok r ↔ b ≠ 0 ∧ a * E < U ∧ r = a * E / b := Dec.div_ok
theorem dec_fromRatio_spec {n d r : Nat} :
    Dec.fromRatio n d = .ok r ↔ d ≠ 0 ∧ n * E < U ∧ r = n * E / d := Dec.fromRatio_ok
theorem dec_fromUint_spec {v r : Nat} : Dec.fromUint v = .ok r ↔ v * E < U ∧ r = v * E := Dec.fromUint_ok
theorem uint_add_spec {a b r : Nat} : Uint.add a b = .ok r ↔ a + b < U ∧ r = a + b := Uint.add_ok
theorem uint_sub_spec {a b r : Nat} : Uint.sub a b = .ok r ↔ b ≤ a ∧ r = a - b := Uint.sub_ok
theorem uint_mul_spec {a b r : Nat} : Uint.mul a b = .ok r ↔ a * b < U ∧ r = a * b := Uint.mul_ok
theorem uint_mulRatio_spec {u n d r : Nat} :
    Uint.mulRatio u n d = .ok r ↔ d ≠ 0 ∧ u * n < U ∧ r = u * n / d := Uint.mulRatio_ok
theorem uint_mulDec_spec {u d r : Nat} : Uint.mulDec u d = .ok r ↔ u * d < U ∧ r = u * d / E := Uint.mulDec_ok
theorem uint_divDec_spec {u d r : Nat} :
    Uint.divDec u d = .ok r ↔ d ≠ 0 ∧ u * E < U ∧ r = u * E / d := Uint.divDec_ok

/-- no operation ever returns a wrapped value: results of in-range operands are in range -/
theorem results_in_range {a b r : Nat} (ha : a < U) (hb : b < U) :
    (Dec.add a b = .ok r → r < U) ∧ (Dec.sub a b = .ok r → r < U) ∧ (Dec.mul a b = .ok r → r < U) ∧
    (Dec.div a b = .ok r → r < U) ∧ (Dec.fromRatio a b = .ok r → r < U) ∧ (Dec.fromUint a = .ok r → r < U) ∧
    (Uint.mul a b = .ok r → r < U) ∧ (Uint.mulDec a b = .ok r → r < U) ∧ (Uint.divDec a b = .ok r → r < U) :=
  Halo.C08.results_in_range ha hb

theorem mulRatio_in_range {u n d r : Nat} (h : Uint.mulRatio u n d = .ok r) : r < U := by
  obtain ⟨_, h1, rfl⟩ := Uint.mulRatio_ok.mp h
  exact Nat.div_lt_of_lt h1

/-- rounding is toward zero and by less than one unit of the result type: the exact quotient lies in `[r, r+1)` -/
theorem dec_mul_rounding {a b r : Nat} (h : Dec.mul a b = .ok r) : r * E ≤ a * b ∧ a * b < (r + 1) * E := by
  obtain ⟨_, rfl⟩ := Dec.mul_ok.mp h
  exact div_round _ E_pos
theorem dec_div_rounding {a b r : Nat} (h : Dec.div a b = .ok r) : r * b ≤ a * E ∧ a * E < (r + 1) * b := by
  obtain ⟨hb, _, rfl⟩ := Dec.div_ok.mp h
  exact div_round _ (Nat.pos_of_ne_zero hb)
theorem dec_fromRatio_rounding {n d r : Nat} (h : Dec.fromRatio n d = .ok r) :
    r * d ≤ n * E ∧ n * E < (r + 1) * d := by
  obtain ⟨hd, _, rfl⟩ := Dec.fromRatio_ok.mp h
  exact div_round _ (Nat.pos_of_ne_zero hd)
theorem uint_mulRatio_rounding {u n d r : Nat} (h : Uint.mulRatio u n d = .ok r) :
    r * d ≤ u * n ∧ u * n < (r + 1) * d := by
  obtain ⟨hd, _, rfl⟩ := Uint.mulRatio_ok.mp h
  exact div_round _ (Nat.pos_of_ne_zero hd)
theorem uint_mulDec_rounding {u d r : Nat} (h : Uint.mulDec u d = .ok r) :
    r * E ≤ u * d ∧ u * d < (r + 1) * E := by
  obtain ⟨_, rfl⟩ := Uint.mulDec_ok.mp h
  exact div_round _ E_pos
theorem uint_divDec_rounding {u d r : Nat} (h : Uint.divDec u d = .ok r) :
    r * d ≤ u * E ∧ u * E < (r + 1) * d := by
  obtain ⟨hd, _, rfl⟩ := Uint.divDec_ok.mp h
  exact div_round _ (Nat.pos_of_ne_zero hd)

/-- limb level: the in-repo width conversions -/
theorem ofU128_value (a : Nat) : (Limbs.ofU128 a).value = a := Halo.ofU128_eq a
theorem ofU128_wf {a : Nat} (h : a < W) : (Limbs.ofU128 a).wf :=
  ⟨Nat.mod_lt _ L_pos, Nat.div_lt_of_lt_mul (W_eq_LL ▸ h), L_pos, L_pos⟩
theorem toU128_ok_iff {n r : Nat} (h : n < U) : toU128 n = .ok r ↔ n < W ∧ r = n := Halo.toU128_ok h
theorem limbs_value_ofNat {n : Nat} (h : n < U) : (Limbs.ofNat n).value = n := Limbs.ofNat_value h
theorem decimalFractional_value : Limbs.decimalFractional.value = E := by decide

/-- comparison is the order of the mathematical values (derive(Ord) on a big-endian-compared
`U256`): modelled as `Nat` order; the limb-lexicographic order agrees with it -/
theorem limbs_order {x y : Limbs} (hx : x.wf) (hy : y.wf) :
    x.value < y.value ↔
      (x.l3 < y.l3 ∨ (x.l3 = y.l3 ∧ (x.l2 < y.l2 ∨ (x.l2 = y.l2 ∧ (x.l1 < y.l1 ∨ (x.l1 = y.l1 ∧ x.l0 < y.l0)))))) :=
  Halo.C08.limbs_order hx hy

example : Dec.mul (2 * E) (3 * E) = .ok (6 * E) := by decide
example : Dec.fromRatio 1 3 = .ok 333333333333333333 := by decide
example : u256.mul (2 ^ 128) (2 ^ 128) = .error .abort := by decide

end Halo.Props.C08
