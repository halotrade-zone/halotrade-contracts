/-
C09 — declared native amounts must equal the attached funds exactly (function level).
-/
import Halo.Proofs.Basic
import Halo.Spec

namespace Halo.Props.C09

/-- accepted iff the first attached coin of the denom (absent ≙ 0) carries exactly the declared amount -/
theorem assertSent_iff (denom amount : Nat) (funds : List (Nat × Nat)) :
    assertSentNative denom amount funds = .ok () ↔ Spec.c09 denom amount funds = true := by
  unfold assertSentNative Spec.c09
  cases h : funds.find? (fun c => decide (c.1 = denom)) with
  | none => simp [eq_comm]
  | some c =>
    simp only [Option.map_some, Option.getD_some, decide_eq_true_eq]
    split <;> simp_all [eq_comm]

/-- and a rejection is an ordinary error, never an abort -/
theorem assertSent_err (denom amount : Nat) (funds : List (Nat × Nat)) :
    assertSentNative denom amount funds = .ok () ∨ assertSentNative denom amount funds = .error .err := by
  unfold assertSentNative
  split <;> split <;> simp

example : assertSentNative 1 5 [(2, 7), (1, 5)] = .ok () := by decide
example : assertSentNative 1 5 [(2, 5)] = .error .err := by decide

end Halo.Props.C09
