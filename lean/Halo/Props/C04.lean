/-
C04 — withdrawal pays the pro-rata share: never more, at most dust less (function level:
the refund arithmetic of `withdraw_liquidity`, `pool * Decimal::from_ratio(amount, total_share)`).
-/
import Halo.Proofs.C04

namespace Halo.Props.C04

/-- `r·a/S − r/10^18 − 1 < x ≤ r·a/S` -/
theorem refund_bounds {r a S x : Nat}
    (h : withdrawRefund r a S = .ok x) (ha : 1 ≤ a) (haS : a ≤ S) :
    Spec.c04 r a S x = true :=
  Halo.C04.refund_bounds h ha haS

/-- the refund never exceeds the reserve -/
theorem refund_le_reserve {r a S x : Nat}
    (h : withdrawRefund r a S = .ok x) (haS : a ≤ S) : x ≤ r :=
  Halo.C04.refund_le_reserve h haS

/-- the refund arithmetic cannot abort on a legal burn (`0 < S`, `a ≤ S`, 128-bit reserve) -/
theorem refund_total {r a S : Nat} (hS : 0 < S) (haS : a ≤ S) (hr : r < W) (hSW : S < W) :
    ∃ x, withdrawRefund r a S = .ok x :=
  Halo.C04.refund_total hS haS hr hSW

/-- success characterised exactly -/
theorem refund_ok_iff {r a S x : Nat} :
    withdrawRefund r a S = .ok x ↔
      S ≠ 0 ∧ a * E / S < W ∧ r * (a * E / S) / E < W ∧ x = r * (a * E / S) / E :=
  Halo.C04.refund_ok_iff

/-- an entitlement of at least `r/10^18 + 2` yields a refund of at least 2 (used by C20) -/
theorem refund_ge_two {r a S x : Nat}
    (h : withdrawRefund r a S = .ok x) (ha : 1 ≤ a) (haS : a ≤ S)
    (hent : (r + 2 * E) * S ≤ r * a * E) : 2 ≤ x :=
  Halo.C04.refund_ge_two h ha haS hent

/-- burning more never pays less (same reserve and supply) -/
theorem refund_mono_amount {r a a' S x x' : Nat}
    (h : withdrawRefund r a S = .ok x) (h' : withdrawRefund r a' S = .ok x') (haa : a ≤ a') :
    x ≤ x' :=
  Halo.C04.refund_mono_amount h h' haa

/-- a larger reserve (e.g. after a donation) never pays less for the same burn -/
theorem refund_mono_reserve {r r' a S x x' : Nat}
    (h : withdrawRefund r a S = .ok x) (h' : withdrawRefund r' a S = .ok x') (hrr : r ≤ r') :
    x ≤ x' :=
  Halo.C04.refund_mono_reserve h h' hrr

/-- "never more" under splitting: two burns priced against the same reserve and supply never pay
more than the single burn of their sum -/
theorem refund_superadditive {r a b S x y z : Nat}
    (ha : withdrawRefund r a S = .ok x) (hb : withdrawRefund r b S = .ok y)
    (hab : withdrawRefund r (a + b) S = .ok z) : x + y ≤ z :=
  Halo.C04.refund_superadditive ha hb hab

/-- the three hypotheses of `refund_superadditive` are jointly satisfiable, strictly -/
example : withdrawRefund 1000003 333 1000 = .ok 333000 ∧ withdrawRefund 1000003 334 1000 = .ok 334001 ∧
    withdrawRefund 1000003 667 1000 = .ok 667002 := by decide

example : withdrawRefund 1000003 333 1000 = .ok 333000 ∧ Spec.c04 1000003 333 1000 333000 = true := by decide

end Halo.Props.C04
