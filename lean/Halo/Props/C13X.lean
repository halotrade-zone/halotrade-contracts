/-
C13 at system level without the restrictions of `Halo/Props/C13W.lean` (audit items):

  (i)   cyclic routes: `route_passthrough` (C13W) states the recipient's gain only for `first ≠ target`.
        `route_passthrough_cyclic` drops that condition: for a → x → y → a the recipient's balance of the
        target (= first) asset rises by exactly the quote, and the router ends with zero of it.
  (ii)  the recipient may be a pair of the route (a donation to that pool): `route_effect` gives the complete
        effect of a route on EVERY balance for any recipient other than the router; `route_rcv_pair` reads it
        at a recipient that is a route pair; `route_rcv_last_pair` is the counterexample to "the recipient's
        target balance rises by the quote": when the recipient is the LAST hop's pair, that pair pays the
        quote to itself and its target balance does not change at all.
        (A recipient equal to the router is excluded: then the output stays in the router and clause
        "the router ends with zero of every route asset" is false.)
  (iii) transaction level: `exec_route_passthrough` (direct `ExecuteSwapOperations` with the input attached)
        and `exec_tokSend_passthrough` (cw20 `Send` to the router) link "the input" to the amount
        attached / sent and "the quote" to `routerSimulateTop` evaluated in the PRE-transaction world
        (`quote_attach`, `quote_tokTransfer`: crediting the router changes no quote).
        `exec_route_effect` / `exec_tokSend_effect` are the same for any recipient other than the router.
-/
import Halo.Proofs.C13X.Example

namespace Halo.Props.C13X

/- Declared in `Halo/Proofs/C13W.lean` (the proofs need to mention them):

structure RouteOK (w : World) (rcv : Nat) (ops : List (Asset × Asset)) : Prop      -- see Halo/Props/C13W.lean

/-- `b` is one of the assets of the route -/
def OnRoute (b : Asset) (ops : List (Asset × Asset)) : Prop := ∃ h ∈ ops, b = h.1 ∨ b = h.2

/-- `z` is not the pair of any hop of the route -/
def NotRoutePair (w : World) (ops : List (Asset × Asset)) (z : Nat) : Prop :=
  ∀ h ∈ ops, ∀ R, facLookup w h.1 h.2 = some R → R.pair ≠ z

/-- `RouteOK` without its conditions on the recipient (and without `routerNoPair`) -/
structure RouteOK' (w : World) (ops : List (Asset × Asset)) : Prop where
  resolves : ∀ h ∈ ops, ∃ R P, facLookup w h.1 h.2 = some R ∧ w.pair R.pair = some P ∧
      ((P.a0 = h.1 ∧ P.a1 = h.2) ∨ (P.a0 = h.2 ∧ P.a1 = h.1)) ∧ h.1 ≠ h.2 ∧ R.pair ≠ w.router
  distinctPairs : (ops.map fun h => (facLookup w h.1 h.2).map (·.pair)).Nodup
  routerEmpty : ∀ h ∈ ops, ∀ b, (b = h.1 ∨ b = h.2) → b ≠ (ops.head?.map (·.1)).getD b → bal w b w.router = 0
-/
open Halo.C13W (RouteOK OnRoute)
open Halo.C13X (RouteOK' NotRoutePair)

/-! ### (i) cyclic routes -/

/-- for any route over pairwise distinct pairs (cyclic or not), executed while the router holds none of the
route's assets except the input `amt` of the first offer asset, with a recipient that is neither the router
nor a pair of the route: the recipient's balance of the target asset rises by exactly the quote — also when
the target is the first asset; every route asset ends at zero in the router; no other asset reaches the
recipient; assets off the route do not move at all -/
theorem route_passthrough_cyclic {w w' : World} {rcv amt : Nat} {first : Asset} {ops : List (Asset × Asset)}
    (hok : RouteOK w rcv ops) (hfirst : ops.head?.map (·.1) = some first)
    (hamt : bal w first w.router = amt) (h : routerHops w rcv ops = .ok w') :
    ∃ target q, ops.getLast?.map (·.2) = some target ∧ routerSimulateTop w amt ops = .ok q ∧
      bal w' target rcv = bal w target rcv + q ∧
      (∀ b, OnRoute b ops → bal w' b w.router = 0) ∧
      (∀ b, b ≠ target → bal w' b rcv = bal w b rcv) ∧
      (∀ b, ¬ OnRoute b ops → ∀ z, bal w' b z = bal w b z) :=
  Halo.C13X.route_passthrough_cyclic hok hfirst hamt h

/-! ### (ii) any recipient other than the router -/

/-- `RouteOK` is `RouteOK'` plus: the recipient is not the router and not a pair of the route -/
theorem routeOK_weaken {w : World} {rcv : Nat} {ops : List (Asset × Asset)} (hok : RouteOK w rcv ops) :
    RouteOK' w ops ∧ rcv ≠ w.router ∧ NotRoutePair w ops rcv :=
  Halo.C13W.RouteOK.weaken hok

/-- the complete effect of one hop: the router's whole balance of the offer asset goes to the pair, the pair
pays the quoted `n` of the ask asset to the recipient — which may be the pair itself or the router —, and
nothing else moves (additive form, so that a self-payment is covered) -/
theorem hop_full {w w1 : World} {o a : Asset} {tgt : Option Nat} {R : Record} {P : PairSt}
    (hR : facLookup w o a = some R) (hP : w.pair R.pair = some P)
    (hPa : (P.a0 = o ∧ P.a1 = a) ∨ (P.a0 = a ∧ P.a1 = o)) (hoa : o ≠ a)
    (hpr : R.pair ≠ w.router)
    (h : routerHop w w.router o a tgt = .ok w1) :
    ∃ n s k, bal w o w.router ≠ 0 ∧
      qSimulation w R.pair o (bal w o w.router) = .ok (n, s, k) ∧
      (∀ c z, bal w1 c z + (if c = o ∧ z = w.router then bal w o w.router else 0) +
            (if c = a ∧ z = R.pair then n else 0) =
          bal w c z + (if c = o ∧ z = R.pair then bal w o w.router else 0) +
            (if c = a ∧ z = tgt.getD w.router then n else 0)) ∧
      Same w w1 ∧ SameToks w w1 :=
  Halo.C13.hop_full hR hP hPa hoa hpr h

/-- a successful simulation splits at every hop: the prefix quotes the hop's input `x`, the hop's pair quotes
`y` for it, the rest of the route turns `y` into the final quote -/
theorem routerSimulate_split {w : World} (pre : List (Asset × Asset)) {o a : Asset}
    {post : List (Asset × Asset)} {amt q : Nat}
    (h : routerSimulate w amt (pre ++ (o, a) :: post) = .ok q) :
    ∃ R x y s k, facLookup w o a = some R ∧ routerSimulate w amt pre = .ok x ∧
      qSimulation w R.pair o x = .ok (y, s, k) ∧ routerSimulate w y post = .ok q :=
  Halo.C13X.routerSimulate_split pre h

/-- the complete effect of a route for ANY recipient other than the router: the quote `q` for the router's
input balance in the same state; every route asset ends at zero in the router; assets off the route do not
move; an account that is neither the router nor a pair of the route is untouched except that the recipient
receives `q` of the target asset; the pair of each hop receives the hop's input `x` (the quote of the
prefix) and pays the hop's quote `y` — plus `q` of the target asset if that pair is the recipient -/
theorem route_effect {w w' : World} {rcv amt : Nat} {first : Asset} {ops : List (Asset × Asset)}
    (hok : RouteOK' w ops) (hrr : rcv ≠ w.router) (hfirst : ops.head?.map (·.1) = some first)
    (hamt : bal w first w.router = amt) (h : routerHops w rcv ops = .ok w') :
    ∃ target q, ops.getLast?.map (·.2) = some target ∧ routerSimulateTop w amt ops = .ok q ∧
      (∀ b, OnRoute b ops → bal w' b w.router = 0) ∧
      (∀ b, ¬ OnRoute b ops → ∀ z, bal w' b z = bal w b z) ∧
      (∀ z, z ≠ w.router → NotRoutePair w ops z → ∀ b,
        bal w' b z = bal w b z + (if z = rcv ∧ b = target then q else 0)) ∧
      (∀ pre o a post, ops = pre ++ (o, a) :: post →
        ∃ R x y s k, facLookup w o a = some R ∧ routerSimulate w amt pre = .ok x ∧
          qSimulation w R.pair o x = .ok (y, s, k) ∧ routerSimulate w y post = .ok q ∧
          ∀ b, bal w' b R.pair + (if b = a then y else 0) =
            bal w b R.pair + (if b = o then x else 0) + (if R.pair = rcv ∧ b = target then q else 0)) :=
  Halo.C13X.route_effect_top (.refl w ops) hok hrr hfirst hamt h

/-- the recipient is the pair of a hop of the route: its balances change by its own hop (it receives the
hop's input `x` of `o` and pays the hop's quote `y` of `a`) and by the final payment of the route's quote `q`
of the target asset -/
theorem route_rcv_pair {w w' : World} {rcv amt : Nat} {first : Asset} {ops pre post : List (Asset × Asset)}
    {o a : Asset} {R : Record}
    (hok : RouteOK' w ops) (hrr : rcv ≠ w.router) (hfirst : ops.head?.map (·.1) = some first)
    (hamt : bal w first w.router = amt) (h : routerHops w rcv ops = .ok w')
    (hsplit : ops = pre ++ (o, a) :: post) (hR : facLookup w o a = some R) (hrcv : R.pair = rcv) :
    ∃ target q x y s k, ops.getLast?.map (·.2) = some target ∧ routerSimulateTop w amt ops = .ok q ∧
      routerSimulate w amt pre = .ok x ∧ qSimulation w rcv o x = .ok (y, s, k) ∧
      routerSimulate w y post = .ok q ∧
      ∀ b, bal w' b rcv + (if b = a then y else 0) =
        bal w b rcv + (if b = o then x else 0) + (if b = target then q else 0) :=
  Halo.C13X.route_rcv_pair hok hrr hfirst hamt h hsplit hR hrcv

/-- counterexample to "the recipient's target balance rises by the quote" for a recipient that is a pair of
the route: if it is the LAST hop's pair, the quote is paid by the pair to itself — its balance of the target
asset is unchanged, and it keeps the last hop's input -/
theorem route_rcv_last_pair {w w' : World} {rcv amt : Nat} {first : Asset} {ops pre : List (Asset × Asset)}
    {o a : Asset} {R : Record}
    (hok : RouteOK' w ops) (hrr : rcv ≠ w.router) (hfirst : ops.head?.map (·.1) = some first)
    (hamt : bal w first w.router = amt) (h : routerHops w rcv ops = .ok w')
    (hsplit : ops = pre ++ [(o, a)]) (hR : facLookup w o a = some R) (hrcv : R.pair = rcv) :
    ∃ q x, routerSimulateTop w amt ops = .ok q ∧ routerSimulate w amt pre = .ok x ∧
      bal w' a rcv = bal w a rcv ∧ bal w' o rcv = bal w o rcv + x ∧
      ∀ b, b ≠ o → b ≠ a → bal w' b rcv = bal w b rcv :=
  Halo.C13X.route_rcv_last_pair hok hrr hfirst hamt h hsplit hR hrcv

/-! ### (iii) transaction level -/

/-- the handler `execute_swap_operations` is the hops of its route (no route hypothesis needed) -/
theorem swapOps_hops {name : Asset → String} {w w' : World} {sender : Nat} {ops : List (Asset × Asset)}
    {mn tgt : Option Nat} (h : routerSwapOps name w sender ops mn tgt = .ok w') :
    routerHops w (tgt.getD sender) ops = .ok w' :=
  Halo.routerSwapOps_hops h

/-- attaching funds (any coin list) to the router changes no pair's reserves: the router's quote for any
route and any input is the same before and after the funds arrive -/
theorem quote_attach {w w0 : World} {s : Nat} {funds : List (Nat × Nat)}
    (hat : attach w s w.router funds = .ok w0) (hsp : (w.pair s).isNone) (hrp : (w.pair w.router).isNone)
    (ops : List (Asset × Asset)) (n : Nat) : routerSimulateTop w0 n ops = routerSimulateTop w n ops :=
  Halo.C13X.quote_credit (attach_led hat rfl rfl) hsp hrp ops n

/-- the same for the cw20 transfer that precedes the router's `Receive` -/
theorem quote_tokTransfer {w w0 : World} {t s amt : Nat}
    (htr : tokTransfer w t s w.router amt = .ok w0) (hsp : (w.pair s).isNone) (hrp : (w.pair w.router).isNone)
    (ops : List (Asset × Asset)) (n : Nat) : routerSimulateTop w0 n ops = routerSimulateTop w n ops :=
  Halo.C13X.quote_credit (.xfer rfl rfl htr) hsp hrp ops n

/-- transaction, direct entry.  An external actor `s` submits `ExecuteSwapOperations` with `amt` of denom `d`
attached; the route starts with `.native d`, its hops resolve to pairwise distinct pairs, the router holds
none of the route's assets in the pre-transaction world `w`, and the recipient `toAddr.getD s` is neither the
router nor a pair of the route (all bundled in `RouteOK w` + `h0`).  Then, with `q` the router's quote for
`amt` in `w`: the recipient's balance of the target asset rises by exactly `q`, net of the input when the
recipient itself paid it in the target asset (cyclic route); no other asset of the recipient changes except
that it paid the input if it is the sender; all of `amt` leaves the sender; the router ends with zero of
every route asset; assets off the route do not move -/
theorem exec_route_passthrough {name : Asset → String} {w w' : World} {s d amt : Nat}
    {ops : List (Asset × Asset)} {mn toAddr : Option Nat} {out : Out}
    (hok : RouteOK w (toAddr.getD s) ops)
    (hfirst : ops.head?.map (·.1) = some (.native d))
    (h0 : bal w (.native d) w.router = 0)
    (hact : IsActor w s)
    (h : exec name w (.router s [(d, amt)] (.swapOps ops mn toAddr)) = .ok (w', out)) :
    ∃ target q, ops.getLast?.map (·.2) = some target ∧ routerSimulateTop w amt ops = .ok q ∧
      amt ≠ 0 ∧ amt ≤ bal w (.native d) s ∧
      bal w' target (toAddr.getD s) = bal w target (toAddr.getD s) + q -
        (if toAddr.getD s = s ∧ target = .native d then amt else 0) ∧
      (∀ b, bal w' b (toAddr.getD s) + (if toAddr.getD s = s ∧ b = .native d then amt else 0) =
        bal w b (toAddr.getD s) + (if b = target then q else 0)) ∧
      (toAddr.getD s ≠ s → ∀ b, bal w' b s + (if b = .native d then amt else 0) = bal w b s) ∧
      (∀ b, OnRoute b ops → bal w' b w.router = 0) ∧
      (∀ b, ¬ OnRoute b ops → ∀ z, bal w' b z = bal w b z) :=
  Halo.C13X.exec_route_passthrough hok hfirst h0 hact h

/-- transaction, cw20 entry: `Send` of `amt` of token `t` to the router carrying the route; as above with
`.token t` for the first offer asset -/
theorem exec_tokSend_passthrough {name : Asset → String} {w w' : World} {t s amt : Nat}
    {ops : List (Asset × Asset)} {mn toAddr : Option Nat} {out : Out}
    (hok : RouteOK w (toAddr.getD s) ops)
    (hfirst : ops.head?.map (·.1) = some (.token t))
    (h0 : bal w (.token t) w.router = 0)
    (hact : IsActor w s)
    (h : exec name w (.tokSend t s w.router amt (.routerOps ops mn toAddr)) = .ok (w', out)) :
    ∃ target q, ops.getLast?.map (·.2) = some target ∧ routerSimulateTop w amt ops = .ok q ∧
      amt ≠ 0 ∧ amt ≤ bal w (.token t) s ∧
      bal w' target (toAddr.getD s) = bal w target (toAddr.getD s) + q -
        (if toAddr.getD s = s ∧ target = .token t then amt else 0) ∧
      (∀ b, bal w' b (toAddr.getD s) + (if toAddr.getD s = s ∧ b = .token t then amt else 0) =
        bal w b (toAddr.getD s) + (if b = target then q else 0)) ∧
      (toAddr.getD s ≠ s → ∀ b, bal w' b s + (if b = .token t then amt else 0) = bal w b s) ∧
      (∀ b, OnRoute b ops → bal w' b w.router = 0) ∧
      (∀ b, ¬ OnRoute b ops → ∀ z, bal w' b z = bal w b z) :=
  Halo.C13X.exec_tokSend_passthrough hok hfirst h0 hact h

/-- transaction, direct entry, any recipient other than the router (it may be a pair of the route): the
complete effect on every balance relative to the pre-transaction world, the quote and all per-hop amounts
being the router's / the pairs' simulations in the pre-transaction world -/
theorem exec_route_effect {name : Asset → String} {w w' : World} {s d amt : Nat}
    {ops : List (Asset × Asset)} {mn toAddr : Option Nat} {out : Out}
    (hok : RouteOK' w ops) (hrr : toAddr.getD s ≠ w.router)
    (hfirst : ops.head?.map (·.1) = some (.native d))
    (h0 : bal w (.native d) w.router = 0)
    (hact : IsActor w s)
    (h : exec name w (.router s [(d, amt)] (.swapOps ops mn toAddr)) = .ok (w', out)) :
    ∃ target q, ops.getLast?.map (·.2) = some target ∧ routerSimulateTop w amt ops = .ok q ∧
      amt ≠ 0 ∧ amt ≤ bal w (.native d) s ∧
      (∀ b, OnRoute b ops → bal w' b w.router = 0) ∧
      (∀ b, ¬ OnRoute b ops → ∀ z, bal w' b z = bal w b z) ∧
      (∀ z, z ≠ w.router → NotRoutePair w ops z → ∀ b,
        bal w' b z + (if z = s ∧ b = .native d then amt else 0) =
          bal w b z + (if z = toAddr.getD s ∧ b = target then q else 0)) ∧
      (∀ pre o a post, ops = pre ++ (o, a) :: post →
        ∃ R x y s' k, facLookup w o a = some R ∧ routerSimulate w amt pre = .ok x ∧
          qSimulation w R.pair o x = .ok (y, s', k) ∧ routerSimulate w y post = .ok q ∧
          ∀ b, bal w' b R.pair + (if b = a then y else 0) =
            bal w b R.pair + (if b = o then x else 0) +
              (if R.pair = toAddr.getD s ∧ b = target then q else 0)) := by
  obtain ⟨w0, hc, h⟩ := Halo.C13X.exec_swapOps_ok h
  exact Halo.C13X.tx_effect hok hrr hfirst h0 hact.noPair hact.ne_router hc h

/-- transaction, cw20 entry, any recipient other than the router -/
theorem exec_tokSend_effect {name : Asset → String} {w w' : World} {t s amt : Nat}
    {ops : List (Asset × Asset)} {mn toAddr : Option Nat} {out : Out}
    (hok : RouteOK' w ops) (hrr : toAddr.getD s ≠ w.router)
    (hfirst : ops.head?.map (·.1) = some (.token t))
    (h0 : bal w (.token t) w.router = 0)
    (hact : IsActor w s)
    (h : exec name w (.tokSend t s w.router amt (.routerOps ops mn toAddr)) = .ok (w', out)) :
    ∃ target q, ops.getLast?.map (·.2) = some target ∧ routerSimulateTop w amt ops = .ok q ∧
      amt ≠ 0 ∧ amt ≤ bal w (.token t) s ∧
      (∀ b, OnRoute b ops → bal w' b w.router = 0) ∧
      (∀ b, ¬ OnRoute b ops → ∀ z, bal w' b z = bal w b z) ∧
      (∀ z, z ≠ w.router → NotRoutePair w ops z → ∀ b,
        bal w' b z + (if z = s ∧ b = .token t then amt else 0) =
          bal w b z + (if z = toAddr.getD s ∧ b = target then q else 0)) ∧
      (∀ pre o a post, ops = pre ++ (o, a) :: post →
        ∃ R x y s' k, facLookup w o a = some R ∧ routerSimulate w amt pre = .ok x ∧
          qSimulation w R.pair o x = .ok (y, s', k) ∧ routerSimulate w y post = .ok q ∧
          ∀ b, bal w' b R.pair + (if b = a then y else 0) =
            bal w b R.pair + (if b = o then x else 0) +
              (if R.pair = toAddr.getD s ∧ b = target then q else 0)) := by
  obtain ⟨-, w0, hc, h⟩ := C11.tokSend_route_ok (exec_ok h)
  exact Halo.C13X.tx_effect (first := .token t) hok hrr hfirst h0 hact.noPair hact.ne_router hc h

/-! ### non-vacuity: a concrete cyclic route

`Halo.C13X.Example.wE` (declared in `Halo/Proofs/C13X/Example.lean`): users 1 2, factory 6, router 7, three pools over
the native denoms 0 1 2 forming a triangle — pair 11 (0/1), pair 13 (1/2), pair 15 (2/0); `cyc` is the route
0 → 1 → 2 → 0, accepted by `assert_operations`; `gain r b` is the change of `r`'s balance of `b` when user 2
submits `ExecuteSwapOperations cyc` with 5000 of denom 0 attached and recipient `r`. -/

open Halo.C13X.Example (wE cyc nameE gain)

/-- the hypotheses of `exec_route_passthrough` hold for the cyclic route with user 2 as sender and recipient -/
theorem routeOK_cyc : RouteOK wE 2 cyc := Halo.C13X.Example.routeOK_cyc

theorem cyc_quote : routerSimulateTop wE 5000 cyc = .ok 5032 := Halo.C13X.Example.cyc_quote

/-- `exec_route_passthrough` on the cyclic route, sender = recipient: user 2 ends with exactly
`quote − input` = 32 more of denom 0; the router ends with none of the three denoms -/
theorem cyc_effect : ∃ w' out, exec nameE wE (.router 2 [(0, 5000)] (.swapOps cyc none none)) = .ok (w', out) ∧
    bal w' (.native 0) 2 = 10000032 ∧
    bal w' (.native 0) 7 = 0 ∧ bal w' (.native 1) 7 = 0 ∧ bal w' (.native 2) 7 = 0 ∧
    bal w' (.native 1) 2 = 10000000 ∧ bal w' (.native 2) 2 = 10000000 :=
  Halo.C13X.Example.cyc_effect

/-- a third-party recipient receives exactly the quote in the target (= first) denom -/
theorem gain_user : gain 1 (.native 0) = some 5032 := by decide +kernel

/-- the counterexample of (ii): the recipient is the LAST hop's pair; the quote is 5032 but its balance of
the target denom does not change (it keeps the last hop's input 4930 of denom 2) -/
theorem gain_last_pair : gain 15 (.native 0) = some 0 ∧ gain 15 (.native 2) = some 4930 := by
  decide +kernel

/-- the recipient is the FIRST hop's pair: +input +quote in denom 0, −(its own hop's output) in denom 1 -/
theorem gain_first_pair : gain 11 (.native 0) = some (5000 + 5032) ∧ gain 11 (.native 1) = some (-9921) := by
  decide +kernel

end Halo.Props.C13X
