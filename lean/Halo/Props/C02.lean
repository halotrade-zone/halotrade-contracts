/-
C02 — swap settlement moves exactly the declared asset and amounts.

`w0` is the world at handler entry (attached funds credited, resp. the cw20 amount transferred):
that is where the pair measures its reserves.  Hypotheses `P.a0 ≠ P.a1` (the factory never creates a
pair over two identical assets, C16) and `trader ≠ p` (contracts originate no operations).
-/
import Halo.Proofs.C02

namespace Halo.Props.C02

/-- direct swap of a native offer -/
theorem swap_native_effect {w w' : World} {s p d amt : Nat} {funds : List (Nat × Nat)}
    {b ms to : Option Nat} {o : SwapOut}
    (h : pairExec w s p funds (.swap (.native d) amt b ms to) = .ok (w', .swap o)) :
    ∃ P w0, w.pair p = some P ∧ attach w s p funds = .ok w0 ∧
      -- (i) the offered asset is a pair asset and is the asset actually delivered, in the declared amount
      (P.a0 = .native d ∨ P.a1 = .native d) ∧ Spec.c09 d amt funds = true ∧ o.offer = amt ∧
      -- the asset paid out is the other one
      (o.ask = P.a0 ∨ o.ask = P.a1) ∧ (P.a0 ≠ P.a1 → o.ask ≠ .native d) ∧
      -- (iii) the pair's ask reserve falls by exactly the reported return; (iv) the receiver gets exactly that
      o.ret ≤ bal w0 o.ask p ∧
      (to.getD s ≠ p → bal w' o.ask p = bal w0 o.ask p - o.ret ∧ bal w' o.ask (to.getD s) = bal w0 o.ask (to.getD s) + o.ret) ∧
      -- (v) nothing else moves after handler entry
      (∀ a z, (a ≠ o.ask ∨ (z ≠ p ∧ z ≠ to.getD s)) → bal w' a z = bal w0 a z) ∧
      (∀ t, supply w' t = supply w0 t) :=
  Halo.C02.swap_native_effect h

/-- what "attached funds credited" means for the usual single-coin funds: the pair's offer reserve
rises by exactly the offered amount, delivered by the trader in that same transaction -/
theorem attach_single_effect {w w0 : World} {s p d amt : Nat} (hsp : s ≠ p)
    (h : attach w s p [(d, amt)] = .ok w0) :
    amt ≠ 0 ∧ amt ≤ bal w (.native d) s ∧
    bal w0 (.native d) p = bal w (.native d) p + amt ∧ bal w0 (.native d) s = bal w (.native d) s - amt ∧
    (∀ a z, (a ≠ .native d ∨ (z ≠ p ∧ z ≠ s)) → bal w0 a z = bal w a z) :=
  Halo.C02.attach_single_effect hsp h

/-- swap through a cw20 `Send` hook -/
theorem swap_hook_effect {w w' : World} {t u p amt a : Nat} {offer : Asset}
    {b ms to : Option Nat} {o : SwapOut} (hup : u ≠ p)
    (h : tokSendPair w t u p amt (.swap offer a b ms to) = .ok (w', .swap o)) :
    ∃ P w0, w.pair p = some P ∧ tokTransfer w t u p amt = .ok w0 ∧
      -- (i) a trader is never credited for an asset or amount other than what the pair received
      offer = .token t ∧ a = amt ∧ o.offer = amt ∧ (P.a0 = .token t ∨ P.a1 = .token t) ∧
      -- (ii) the pair's offer reserve rose by exactly that amount, paid by the trader
      amt ≠ 0 ∧ amt ≤ bal w (.token t) u ∧
      bal w0 (.token t) p = bal w (.token t) p + amt ∧ bal w0 (.token t) u = bal w (.token t) u - amt ∧
      (o.ask = P.a0 ∨ o.ask = P.a1) ∧ (P.a0 ≠ P.a1 → o.ask ≠ .token t) ∧
      -- (iii), (iv)
      o.ret ≤ bal w0 o.ask p ∧
      (to.getD u ≠ p → bal w' o.ask p = bal w0 o.ask p - o.ret ∧ bal w' o.ask (to.getD u) = bal w0 o.ask (to.getD u) + o.ret) ∧
      -- (v)
      (∀ x z, (x ≠ o.ask ∨ (z ≠ p ∧ z ≠ to.getD u)) → bal w' x z = bal w0 x z) ∧
      (∀ x z, (x ≠ .token t ∨ (z ≠ p ∧ z ≠ u)) → bal w0 x z = bal w x z) :=
  Halo.C02.swap_hook_effect hup h

/-- a hook whose named asset differs from the sending token is rejected (this was defect D2) -/
theorem hook_wrong_asset_rejected {w : World} {t u p amt a : Nat} {offer : Asset}
    {b ms to : Option Nat} {r : World × Out} (hne : offer ≠ .token t) :
    tokSendPair w t u p amt (.swap offer a b ms to) ≠ .ok r :=
  Halo.C02.hook_wrong_asset_rejected hne

/-- a hook whose named amount differs from the amount sent is rejected -/
theorem hook_wrong_amount_rejected {w : World} {t u p amt a : Nat} {offer : Asset}
    {b ms to : Option Nat} {r : World × Out} (hne : a ≠ amt) :
    tokSendPair w t u p amt (.swap offer a b ms to) ≠ .ok r :=
  Halo.C02.hook_wrong_amount_rejected hne

/-- the reported amounts are exactly those of the pricing function on the reserves net of the credited offer -/
theorem swap_reports_pricing {w0 w' : World} {p : Nat} {P : PairSt} {funds : List (Nat × Nat)} {trader : Nat}
    {offer : Asset} {amt : Nat} {b ms to : Option Nat} {o : SwapOut}
    (h : pairSwap w0 p P funds trader offer amt b ms to = .ok (w', o)) (hne : P.a0 ≠ P.a1) :
    ∃ ask, o.ask = ask ∧ ((offer = P.a0 ∧ ask = P.a1) ∨ (offer = P.a1 ∧ ask = P.a0)) ∧
      amt ≤ bal w0 offer p ∧
      computeSwap (bal w0 offer p - amt) (bal w0 ask p) amt P.comm = .ok (o.ret, o.spread, o.comm) ∧ o.offer = amt :=
  Halo.C02.swap_reports_pricing h hne

end Halo.Props.C02
