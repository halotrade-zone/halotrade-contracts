/-
C20 — the 128-bit bounds are invariants.
`C20.withdraw_live` and `C20W.withdraw_live_after_history` take the bounds `bal … < W`, `supply … < W`
(`W = 2^128`) of the world in which the withdrawal is submitted as hypotheses.  They are invariants of the model:

  (a) cw20: every operation keeps every total supply below `W` (a mint that would reach `W` fails, a burn only
      decreases, a token instantiated by `CreatePair` starts at 0), so this holds after any history whatsoever;
      with cw20 conservation (`TokSumOK`, preserved by every operation of an external actor) every balance is
      at most the supply,
  (b) bank: `NativeBound w d` — every duplicate-free list of accounts holds less than `W` of denom `d`, i.e. the
      denom circulates less than `W` — is preserved by every operation (coins are only moved), so it holds after
      any history whatsoever, and bounds every balance,
  (c) hence `withdraw_live_reachable`: `C20W.withdraw_live_after_history` with the three bounds on the final world
      replaced by bounds on the initial one (`AssetBound`: `NativeBound` for a denom, `TokSumOK` and a supply
      below `W` for a cw20 token), and the same from the creation of the pair.
-/
import Halo.Proofs.Bounds

namespace Halo.Props.C20B
open Halo.Bounds (NativeBound AssetBound)

/-! ### (a) cw20 -/

/-- every successful operation keeps the total supply of every cw20 token below 2^128 -/
theorem supply_lt_W_step {name : Asset → String} {w w' : World} {op : Op} {out : Out}
    (h : exec name w op = .ok (w', out)) (t : Nat) (hb : supply w t < W) : supply w' t < W :=
  Halo.Bounds.supply_lt_W_step h t hb

/-- … hence after any history (no validity assumption: not even freshness of allocated addresses is needed) -/
theorem supply_lt_W_run {name : Asset → String} (t : Nat) (ops : List Op) (w : World) (hb : supply w t < W) :
    supply (run name w ops) t < W :=
  Halo.Bounds.supply_lt_W_run t ops w hb

/-- with cw20 conservation every balance is at most the supply -/
theorem token_bal_lt_W {w : World} {t : Nat} (hk : TokSumOK w t) (hb : supply w t < W) (z : Nat) :
    bal w (.token t) z < W :=
  Halo.Bounds.token_bal_lt_W hk hb z

/-- cw20 conservation along a history of external actors' operations -/
theorem tokSumOK_run {name : Asset → String} (t : Nat) (ops : List Op) (w : World) (hv : ValidRun name w ops)
    (hk : TokSumOK w t) : TokSumOK (run name w ops) t :=
  Halo.Bounds.tokSumOK_run t ops w hk

theorem token_bal_lt_W_run {name : Asset → String} (t : Nat) (ops : List Op) (w : World) (hv : ValidRun name w ops)
    (hk : TokSumOK w t) (hb : supply w t < W) (z : Nat) : bal (run name w ops) (.token t) z < W :=
  Halo.Bounds.token_bal_lt_W (Halo.Bounds.tokSumOK_run t ops w hk) (Halo.Bounds.supply_lt_W_run t ops w hb) z

/-! ### (b) bank -/

/-- the definition, spelled out -/
theorem nativeBound_iff (w : World) (d : Nat) :
    NativeBound w d ↔ ∀ L : List Nat, L.Nodup → sumBal w (.native d) L < W := Iff.rfl

/-- every successful operation preserves the bound on the circulation of every denom -/
theorem nativeBound_step {name : Asset → String} {w w' : World} {op : Op} {out : Out}
    (h : exec name w op = .ok (w', out)) (d : Nat) (hb : NativeBound w d) : NativeBound w' d :=
  Halo.Bounds.nativeBound_step h d hb

/-- … hence after any history (no validity assumption) -/
theorem nativeBound_run {name : Asset → String} (d : Nat) (ops : List Op) (w : World) (hb : NativeBound w d) :
    NativeBound (run name w ops) d :=
  Halo.Bounds.nativeBound_run d ops w hb

theorem native_bal_lt_W {w : World} {d : Nat} (hb : NativeBound w d) (z : Nat) : bal w (.native d) z < W :=
  Halo.Bounds.native_bal_lt_W hb z

theorem native_bal_lt_W_run {name : Asset → String} (d : Nat) (ops : List Op) (w : World) (hb : NativeBound w d)
    (z : Nat) : bal (run name w ops) (.native d) z < W :=
  Halo.Bounds.native_bal_lt_W (Halo.Bounds.nativeBound_run d ops w hb) z

/-! ### (c) liveness of withdrawals from bounds at genesis -/

/-- the definition, spelled out -/
theorem assetBound_native (w : World) (d : Nat) : AssetBound w (.native d) ↔ NativeBound w d := Iff.rfl
theorem assetBound_token (w : World) (t : Nat) : AssetBound w (.token t) ↔ TokSumOK w t ∧ supply w t < W := Iff.rfl

/-- every balance of a bounded asset is below 2^128 after any history of external actors' operations -/
theorem bal_lt_W_run {name : Asset → String} (a : Asset) (ops : List Op) (w : World) (hv : ValidRun name w ops)
    (hb : AssetBound w a) (z : Nat) : bal (run name w ops) a z < W :=
  Halo.Bounds.bal_lt_W_run a ops w hb z

/-- `C20W.withdraw_live_after_history` with the bounds `hr0`, `hr1`, `hSW` on the final world replaced by
`hS0`, `hb0`, `hb1` on the initial world -/
theorem withdraw_live_reachable {name : Asset → String} {p : Nat} {a0 a1 : Asset} {lp : Nat}
    (ops : List Op) (w : World) (hinv : PairInv w p a0 a1 lp) (hv : ValidRun name w ops)
    {h a : Nat} (hhp : h ≠ p) (hvalid : w.badAddr h = false) (ha1 : 1 ≤ a)
    (hab : a ≤ bal (run name w ops) (.token lp) h)
    (hS0 : supply w lp < W) (hb0 : AssetBound w a0) (hb1 : AssetBound w a1)
    (hent0 : (bal (run name w ops) a0 p + 2 * E) * supply (run name w ops) lp ≤ bal (run name w ops) a0 p * a * E)
    (hent1 : (bal (run name w ops) a1 p + 2 * E) * supply (run name w ops) lp ≤ bal (run name w ops) a1 p * a * E) :
    ∃ w' x0 x1, exec name (run name w ops) (.tokSend lp h p a .withdraw) = .ok (w', .withdraw x0 x1) ∧
      2 ≤ x0 ∧ 2 ≤ x1 :=
  Halo.Bounds.withdraw_live_reachable ops w hinv hv hhp hvalid ha1 hab hS0 hb0 hb1 hent0 hent1

/-- `C20W.withdraw_live_from_creation` likewise: the bounds are those of the world in which the pair is created
(its LP token starts with supply 0 and needs none) -/
theorem withdraw_live_reachable_from_creation {name : Asset → String} {w w1 : World} {s : Nat}
    {f : List (Nat × Nat)} {a0 a1 : Asset} {req : Requirements} {c ld : Option Nat} {np nl : Nat} {out : Out}
    (hv : ValidOp w (.factory s f (.createPair a0 a1 req c ld np nl))) (hn : NewAddrs w np nl)
    (hc : exec name w (.factory s f (.createPair a0 a1 req c ld np nl)) = .ok (w1, out))
    (ops : List Op) (hvr : ValidRun name w1 ops)
    {h a : Nat} (hhp : h ≠ np) (hvalid : w.badAddr h = false) (ha1 : 1 ≤ a)
    (hab : a ≤ bal (run name w1 ops) (.token nl) h)
    (hb0 : AssetBound w a0) (hb1 : AssetBound w a1)
    (hent0 : (bal (run name w1 ops) a0 np + 2 * E) * supply (run name w1 ops) nl ≤ bal (run name w1 ops) a0 np * a * E)
    (hent1 : (bal (run name w1 ops) a1 np + 2 * E) * supply (run name w1 ops) nl ≤ bal (run name w1 ops) a1 np * a * E) :
    ∃ w' x0 x1, exec name (run name w1 ops) (.tokSend nl h np a .withdraw) = .ok (w', .withdraw x0 x1) ∧
      2 ≤ x0 ∧ 2 ≤ x1 := by
  obtain ⟨hinv, hs0⟩ := C03G.created_pair_inv hv hn hc
  exact Halo.Bounds.withdraw_live_reachable ops w1 hinv hvr hhp (by rw [RegOKP.badAddr_exec hc]; exact hvalid) ha1 hab
    (by rw [hs0]; exact W_pos) (Halo.Bounds.assetBound_step hc hb0) (Halo.Bounds.assetBound_step hc hb1)
    hent0 hent1

end Halo.Props.C20B
