/-
C19 — a page is exactly as long as the limit allows: `min(limit or 10, 30)` entries, or all that remain after the
cursor if fewer (not merely "at most").
-/
import Halo.Registry

namespace Halo.Props.C19P

theorem page_length {α} (reg : List (Bytes × α)) (cursor : Option Bytes) (lim : Option Nat) :
    (readPairs reg cursor lim).length = min (pageSize lim) (afterCursor reg cursor).length :=
  List.length_take

example : pageSize none = 10 ∧ pageSize (some 7) = 7 ∧ pageSize (some 100) = 30 := by decide

end Halo.Props.C19P
