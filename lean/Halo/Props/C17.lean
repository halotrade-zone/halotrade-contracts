/-
C17 — native-decimals updates reach every affected pair, for any number of registered pairs.
-/
import Halo.Proofs.RegOK

namespace Halo.Props.C17

/-- after the owner re-registers denom `d` with decimals `k`: the denom table reports `k`; every
registered pair containing `d` carries `k` in `d`'s position, in the factory record and in the pair's own
description (which agree, `recMatches`); records are otherwise unchanged, and pairs not containing `d`
are untouched -/
theorem update_reaches_all {w w' : World} {s d k : Nat} (hr : RegOK w) (hraw : RawOK w)
    (h : facAddDecimals w s d k = .ok w') :
    w'.denoms d = some k ∧
    w'.registry.map (·.1) = w.registry.map (·.1) ∧
    (∀ e' ∈ w'.registry, ∃ e ∈ w.registry, e.1 = e'.1 ∧
        e'.2.a0 = e.2.a0 ∧ e'.2.a1 = e.2.a1 ∧ e'.2.pair = e.2.pair ∧ e'.2.lp = e.2.lp ∧ e'.2.req = e.2.req ∧ e'.2.comm = e.2.comm ∧
        e'.2.d0 = (if e.2.a0 = .native d then k else e.2.d0) ∧
        e'.2.d1 = (if e.2.a1 = .native d then k else e.2.d1) ∧
        recMatches w' e'.2) :=
  Halo.RegOKP.update_reaches_all hr hraw h

/-- pairs that do not contain the denom keep their state -/
theorem update_others_untouched {w w' : World} {s d k : Nat} (hr : RegOK w) (hraw : RawOK w)
    (h : facAddDecimals w s d k = .ok w') (p : Nat) (P : PairSt) (hP : w.pair p = some P)
    (h0 : P.a0 ≠ .native d) (h1 : P.a1 ≠ .native d) : w'.pair p = some P :=
  Halo.RegOKP.update_others_untouched hr hraw h p P hP h0 h1

/-- the fan-out moves no balance and no supply -/
theorem update_moves_nothing {w w' : World} {s d k : Nat} (h : facAddDecimals w s d k = .ok w') :
    w'.bank = w.bank ∧ w'.tok = w.tok :=
  Halo.RegOKP.update_moves_nothing h

/-- consequently factory record and pair self-description never diverge over any history of
creations and updates: `RegOK` is preserved by every operation (Halo.Props.C16W.regOK_step) -/
theorem record_eq_pair_forever {name : Asset → String} {w w' : World} {op : Op} {out : Out}
    (hr : RegOK w) (hraw : RawOK w)
    (hactor : ∀ s p f m, op = .pair s p f m → s ≠ w.facAddr)
    (hfresh : ∀ s f a0 a1 req c ld np nl, op = .factory s f (.createPair a0 a1 req c ld np nl) → w.pair np = none)
    (h : exec name w op = .ok (w', out)) : ∀ e ∈ w'.registry, recMatches w' e.2 :=
  (Halo.RegOKP.regOK_step hr hraw hactor hfresh h).matched

end Halo.Props.C17
