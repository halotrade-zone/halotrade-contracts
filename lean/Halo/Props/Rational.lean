/-
The rational-number reading of the specification predicates.

`Halo/Spec.lean` states every bound as a cross-multiplied integer inequality (decidable, shared by the
theorems and the run-time oracle).  This file proves, over ℚ, that each predicate is *exactly* the bound
written in the property text — so that the theorems of `Halo/Props/C*.lean` say what the properties say.
`γ = c/10^18`, `σ = ms/10^18`, `τ = t/10^18`, price `= p/10^18`.
-/
import Halo.Proofs.Rational

namespace Halo.Props.Rational

/-- C01: the amount paid out never exceeds `ask_reserve·offer/(offer_reserve+offer)` -/
theorem c01_rat {x y a n : Nat} (hD : 0 < x + a) :
    n * (x + a) ≤ y * a ↔ (n : ℚ) ≤ (y : ℚ) * a / ((x : ℚ) + a) :=
  Halo.Rational.c01_rat hD

/-- C06: `g(1−γ) − 1 < n < g(1−γ) + 1` with `g = y·a/(x+a)`, commission `= ⌊c·(n+commission)⌋`,
`n + commission + spread = ⌊a·y/x⌋` -/
theorem c06_rat {x y a c n s k : Nat} (hD : 0 < x + a) (hc : c ≤ E) :
    Spec.c06 x y a c n s k = true ↔
      k = (n + k) * c / E ∧ n + k + s = y * a / x ∧
      ((y : ℚ) * a / ((x : ℚ) + a)) * (1 - (c : ℚ) / E) - 1 < (n : ℚ) ∧
      (n : ℚ) < ((y : ℚ) * a / ((x : ℚ) + a)) * (1 - (c : ℚ) / E) + 1 :=
  Halo.Rational.c06_rat hD hc

/-- C04: `r·a/S − r/10^18 − 1 < x ≤ r·a/S` -/
theorem c04_rat {r a S x : Nat} (hS : 0 < S) :
    Spec.c04 r a S x = true ↔
      (r : ℚ) * a / S - (r : ℚ) / E - 1 < (x : ℚ) ∧ (x : ℚ) ≤ (r : ℚ) * a / S :=
  Halo.Rational.c04_rat hS

/-- C05: `min_i(d_i·S/r_i) − 1 < m ≤ min_i(d_i·S/r_i)` -/
theorem c05Pos_rat {S d0 d1 r0 r1 m : Nat} (h0 : 0 < r0) (h1 : 0 < r1) :
    Spec.c05Pos S d0 d1 r0 r1 m = true ↔
      min ((d0 : ℚ) * S / r0) ((d1 : ℚ) * S / r1) - 1 < (m : ℚ) ∧
      (m : ℚ) ≤ min ((d0 : ℚ) * S / r0) ((d1 : ℚ) * S / r1) :=
  Halo.Rational.c05Pos_rat h0 h1

/-- C10, belief price given — a successful swap has `r > (o/p − 1)(1 − σ − 10⁻¹⁸)` whenever `o/p > 1`, `σ < 1` -/
theorem c10BeliefSound_rat {o r p ms : Nat} (hp : 0 < p) :
    Spec.c10BeliefSound o r p ms = true ↔
      ((1 : ℚ) < (o : ℚ) / ((p : ℚ) / E) → (ms : ℚ) / E < 1 →
        ((o : ℚ) / ((p : ℚ) / E) - 1) * (1 - (ms : ℚ) / E - 1 / E) < (r : ℚ)) :=
  Halo.Rational.c10BeliefSound_rat hp

/-- C10, belief price given — the guard rejects only when `r < (o/p)(1 − σ)` -/
theorem c10BeliefComplete_rat {o r p ms : Nat} (hp : 0 < p) :
    Spec.c10BeliefComplete o r p ms = true ↔
      ms ≤ E ∧ (r : ℚ) < ((o : ℚ) / ((p : ℚ) / E)) * (1 - (ms : ℚ) / E) :=
  Halo.Rational.c10BeliefComplete_rat hp

/-- C10, only max_spread given — success implies `spread/(return+spread) < σ + 10⁻¹⁸` … -/
theorem c10SpreadSound_rat {r s ms : Nat} (h : 0 < r + s) :
    Spec.c10SpreadSound r s ms = true ↔ (s : ℚ) / ((r : ℚ) + s) < (ms : ℚ) / E + 1 / E :=
  Halo.Rational.c10SpreadSound_rat h

/-- … and the guard rejects only if that ratio exceeds `σ` -/
theorem c10SpreadComplete_rat {r s ms : Nat} (h : 0 < r + s) :
    Spec.c10SpreadComplete r s ms = true ↔ (ms : ℚ) / E < (s : ℚ) / ((r : ℚ) + s) :=
  Halo.Rational.c10SpreadComplete_rat h

/-- C15: success implies both `(d_i/d_j)(1−τ) < r_i/r_j + 2·10⁻¹⁸` -/
theorem c15Sound_rat {t d0 d1 r0 r1 : Nat} (hd0 : 0 < d0) (hd1 : 0 < d1) (hr0 : 0 < r0) (hr1 : 0 < r1) :
    Spec.c15Sound t d0 d1 r0 r1 = true ↔
      t ≤ E ∧
      ((d0 : ℚ) / d1) * (1 - (t : ℚ) / E) < (r0 : ℚ) / r1 + 2 / E ∧
      ((d1 : ℚ) / d0) * (1 - (t : ℚ) / E) < (r1 : ℚ) / r0 + 2 / E :=
  Halo.Rational.c15Sound_rat hd0 hd1 hr0 hr1

/-- C15: the guard never rejects when both left sides are at most the reserve ratio minus `10⁻¹⁸` -/
theorem c15Complete_rat {t d0 d1 r0 r1 : Nat} (ht : t ≤ E) (hd0 : 0 < d0) (hd1 : 0 < d1) (hr0 : 0 < r0) (hr1 : 0 < r1) :
    Spec.c15Complete t d0 d1 r0 r1 = true ↔
      ¬ (((d0 : ℚ) / d1) * (1 - (t : ℚ) / E) ≤ (r0 : ℚ) / r1 - 1 / E ∧
         ((d1 : ℚ) / d0) * (1 - (t : ℚ) / E) ≤ (r1 : ℚ) / r0 - 1 / E) :=
  Halo.Rational.c15Complete_rat ht hd0 hd1 hr0 hr1

/-- C12: the reverse quote is never above the documented closed form `x·y/(y − ask/(1−γ)) − x` … -/
theorem c12Reverse_rat {x y b c o : Nat} (hd : Spec.c12Domain y b c = true) :
    Spec.c12Reverse x y b c o = true ↔
      (o : ℚ) ≤ (x : ℚ) * y / ((y : ℚ) - (b : ℚ) / (1 - (c : ℚ) / E)) - x :=
  Halo.Rational.c12Reverse_rat hd

/-- … and below it only by its rounding bound: `o > x·y/(y − ask/(1−γ) + ask·10⁻¹⁸ + 1) − x − 1` -/
theorem c12ReverseLower_rat {x y b c o : Nat} (hd : Spec.c12Domain y b c = true) :
    Spec.c12ReverseLower x y b c o = true ↔
      (x : ℚ) * y / ((y : ℚ) - (b : ℚ) / (1 - (c : ℚ) / E) + (b : ℚ) / E + 1) - x - 1 < (o : ℚ) :=
  Halo.Rational.c12ReverseLower_rat hd

/-- C03: `NonDecr` is "a positive supply stays positive and `reserve0·reserve1/S²` does not decrease" -/
theorem nonDecr_rat {r0 r1 S r0' r1' S' : Nat} :
    NonDecr (r0, r1, S) (r0', r1', S') ↔
      (0 < S → 0 < S' ∧ (r0 : ℚ) * r1 / ((S : ℚ) ^ 2) ≤ (r0' : ℚ) * r1' / ((S' : ℚ) ^ 2)) :=
  Halo.Rational.nonDecr_rat

/-- C20's entitlement condition `r·a/S ≥ r/10^18 + 2` -/
theorem entitlement_rat {r a S : Nat} (hS : 0 < S) :
    (r + 2 * E) * S ≤ r * a * E ↔ (r : ℚ) / E + 2 ≤ (r : ℚ) * a / S :=
  Halo.Rational.entitlement_rat hS

end Halo.Props.Rational
