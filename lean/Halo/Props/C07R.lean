/-
C07 for router routes — the frame names the pairs.
`Touched w op z` (Halo/Inv.lean) contains every pair contract when `op` is a route, so `C07.step_frame` says
nothing about the pairs that are not on the route.  Here the frame is sharp: a successful route changes no balance
of any account other than the actor, the router, the designated recipient, and the pair contracts that the hops of
the route resolve to in the factory registry (`facLookup`, read in the world in which the operation is
submitted: no router or pair handler writes the registry).  Funds attached to the message go to the router.

All entry points of a route: `ExecuteSwapOperations` sent to the router, a cw20 `Send` to the router carrying the
route as its hook, a raw `Receive` sent to the router by anybody (its default recipient is the `from` field of
the forged message), and the internal single `ExecuteSwapOperation` (which succeeds only when the router itself
submits it).  No freshness assumption is needed: a route creates no contract.
-/
import Halo.Proofs.RouteFrame

namespace Halo.Props.C07R

/-- `ExecuteSwapOperations`: every account that is not the actor, the router, the recipient, or a pair that some
hop of the route resolves to keeps all its balances -/
theorem route_frame {name : Asset → String} {w w' : World} {s : Nat} {funds : List (Nat × Nat)}
    {ops : List (Asset × Asset)} {mn toAddr : Option Nat} {out : Out}
    (h : exec name w (.router s funds (.swapOps ops mn toAddr)) = .ok (w', out)) (z : Nat)
    (hs : z ≠ s) (hr : z ≠ w.router) (hrcv : z ≠ toAddr.getD s)
    (hp : ¬ ∃ o a R, (o, a) ∈ ops ∧ facLookup w o a = some R ∧ R.pair = z) :
    ∀ asset, bal w' asset z = bal w asset z :=
  Halo.Bounds.route_frame h z hs hr hrcv hp

/-- the same for a route delivered by a cw20 `Send` to the router -/
theorem route_frame_hook {name : Asset → String} {w w' : World} {t s amt : Nat}
    {ops : List (Asset × Asset)} {mn toAddr : Option Nat} {out : Out}
    (h : exec name w (.tokSend t s w.router amt (.routerOps ops mn toAddr)) = .ok (w', out)) (z : Nat)
    (hs : z ≠ s) (hr : z ≠ w.router) (hrcv : z ≠ toAddr.getD s)
    (hp : ¬ ∃ o a R, (o, a) ∈ ops ∧ facLookup w o a = some R ∧ R.pair = z) :
    ∀ asset, bal w' asset z = bal w asset z :=
  Halo.Bounds.route_frame_hook h z hs hr hrcv hp

/-- the same for a raw `Receive` sent to the router: the default recipient is the `from` field `f` -/
theorem route_frame_raw {name : Asset → String} {w w' : World} {s f amt : Nat} {funds : List (Nat × Nat)}
    {ops : List (Asset × Asset)} {mn toAddr : Option Nat} {out : Out}
    (h : exec name w (.router s funds (.receive f amt (.routerOps ops mn toAddr))) = .ok (w', out)) (z : Nat)
    (hs : z ≠ s) (hr : z ≠ w.router) (hrcv : z ≠ toAddr.getD f)
    (hp : ¬ ∃ o a R, (o, a) ∈ ops ∧ facLookup w o a = some R ∧ R.pair = z) :
    ∀ asset, bal w' asset z = bal w asset z :=
  Halo.Bounds.route_frame_raw h z hs hr hrcv hp

/-- the single `ExecuteSwapOperation` (the default recipient of the hop is the router) -/
theorem route_frame_swapOp {name : Asset → String} {w w' : World} {s : Nat} {funds : List (Nat × Nat)}
    {o a : Asset} {toAddr : Option Nat} {out : Out}
    (h : exec name w (.router s funds (.swapOp o a toAddr)) = .ok (w', out)) (z : Nat)
    (hs : z ≠ s) (hr : z ≠ w.router) (hrcv : z ≠ toAddr.getD w.router)
    (hp : ¬ ∃ R, facLookup w o a = some R ∧ R.pair = z) :
    ∀ asset, bal w' asset z = bal w asset z :=
  Halo.Bounds.route_frame_swapOp h z hs hr hrcv hp

/-- the allowances granted by an account off the route are untouched -/
theorem route_allow_frame {name : Asset → String} {w w' : World} {s : Nat} {funds : List (Nat × Nat)}
    {ops : List (Asset × Asset)} {mn toAddr : Option Nat} {out : Out}
    (h : exec name w (.router s funds (.swapOps ops mn toAddr)) = .ok (w', out)) (z : Nat)
    (hs : z ≠ s) (hr : z ≠ w.router) (hrcv : z ≠ toAddr.getD s)
    (hp : ¬ ∃ o a R, (o, a) ∈ ops ∧ facLookup w o a = some R ∧ R.pair = z) :
    ∀ t sp, Halo.C07.allowOf w' t z sp = Halo.C07.allowOf w t z sp :=
  (Bounds.swapOps_led h).allow_frame (Bounds.not_routeSet hs hr hrcv hp) id

/-- a route mints and burns nothing -/
theorem route_supply {name : Asset → String} {w w' : World} {s : Nat} {funds : List (Nat × Nat)}
    {ops : List (Asset × Asset)} {mn toAddr : Option Nat} {out : Out}
    (h : exec name w (.router s funds (.swapOps ops mn toAddr)) = .ok (w', out)) (t : Nat) :
    supply w' t = supply w t :=
  Halo.Bounds.route_supply h t

end Halo.Props.C07R
