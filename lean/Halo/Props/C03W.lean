/-
C03 at system level — LP share value never decreases over any history.

`viewOf w p a0 a1 lp = (reserve0, reserve1, LP supply)` with the pair's *actual* balances.
`step_nondecr`: every operation of every external actor (provide, withdraw, swaps in either direction and
through either entry point, router routes, donations, LP transfers and burns, factory messages, malformed and
rejected calls) either leaves `reserve0·reserve1/S²` non-decreasing, or performs an in-window swap on that pair
(`WindowedOn`, defect D1 / known finding KF-SWAP-WINDOW) — and preserves the invariant `PairInv` that makes the
statement inductive.  `history_nondecr` lifts it to all finite histories: **C03_partial** — the full statement
minus exactly the in-window swaps (whose effect is a proved counterexample, Halo.Props.C03.C03_full_is_false).
-/
import Halo.Proofs.C03W

namespace Halo.Props.C03W

/-- one step -/
theorem step_nondecr {name : Asset → String} {w w' : World} {op : Op} {out : Out} {p : Nat} {a0 a1 : Asset} {lp : Nat}
    (hinv : PairInv w p a0 a1 lp) (hv : ValidOp w op) (h : exec name w op = .ok (w', out)) :
    PairInv w' p a0 a1 lp ∧ (NonDecr (viewOf w p a0 a1 lp) (viewOf w' p a0 a1 lp) ∨ WindowedOn w op p) :=
  Halo.C03W.step_nondecr hinv hv h

/-- a rejected step changes nothing -/
theorem failed_step {name : Asset → String} {w : World} {op : Op} {e : Err} (h : exec name w op = .error e) :
    step name w op = w := step_of_error h

/-- **C03_partial**: along any history of external actors' operations none of whose swaps on `p` is in the
window, the share value of `p` at the end is at least its value at the start -/
theorem history_nondecr {name : Asset → String} {p : Nat} {a0 a1 : Asset} {lp : Nat} (ops : List Op) (w : World)
    (hinv : PairInv w p a0 a1 lp) (hv : ValidRun name w ops) (hnw : NoWindowRun name p w ops) :
    PairInv (run name w ops) p a0 a1 lp ∧
    NonDecr (viewOf w p a0 a1 lp) (viewOf (run name w ops) p a0 a1 lp) :=
  Halo.C03W.history_nondecr ops w hinv hv hnw

/-- once the supply is positive it stays positive (the reserved unit can never be withdrawn) -/
theorem supply_stays_positive {name : Asset → String} {p : Nat} {a0 a1 : Asset} {lp : Nat} (ops : List Op) (w : World)
    (hinv : PairInv w p a0 a1 lp) (hv : ValidRun name w ops) (hpos : 0 < supply w lp) :
    0 < supply (run name w ops) lp :=
  Halo.C03W.supply_stays_positive ops w hinv hv hpos

/-- C01 at system level: every successful swap — sent directly, through a cw20 send hook, or through the
router — that is not in the window leaves the product of the pair's two actual reserves at least as large
as before the transaction, and positive reserves stay strictly positive (**C01_partial**, system level) -/
theorem swap_product {name : Asset → String} {w w' : World} {op : Op} {out : Out} {p : Nat} {a0 a1 : Asset} {lp : Nat}
    (hinv : PairInv w p a0 a1 lp) (hv : ValidOp w op) (hs : IsSwapOp op) (h : exec name w op = .ok (w', out))
    (hnw : ¬ WindowedOn w op p) :
    bal w a0 p * bal w a1 p ≤ bal w' a0 p * bal w' a1 p ∧
    (0 < bal w a0 p → 0 < bal w a1 p → 0 < bal w' a0 p ∧ 0 < bal w' a1 p) :=
  Halo.C03W.swap_product hinv hv hs h hnw

end Halo.Props.C03W
