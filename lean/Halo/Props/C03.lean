/-
C03 — LP share value never decreases (arithmetic core and the three pricing functions).

`NonDecr (r0, r1, S) (r0', r1', S')` (Halo/Inv.lean): a positive supply stays positive and
`r0·r1/S² ≤ r0'·r1'/S'²` (cross-multiplied).  The full statement is false of the code for the same
reason as C01 (defect D1, known finding KF-SWAP-WINDOW): an in-window swap lowers the product.  Proved
here: every other ingredient — provisions, withdrawals, out-of-window swaps, donations, burns — never
lowers the share value, and the relation composes over histories.
-/
import Halo.Proofs.C03

namespace Halo.Props.C03

theorem nonDecr_refl (v : Nat × Nat × Nat) : NonDecr v v := Halo.C03.nonDecr_refl v

/-- the relation composes, so it lifts from steps to histories -/
theorem nonDecr_trans {a b c : Nat × Nat × Nat} (h1 : NonDecr a b) (h2 : NonDecr b c) : NonDecr a c :=
  Halo.C03.nonDecr_trans h1 h2

/-- over any list of views each related to the next, the first is related to the last -/
theorem nonDecr_chain (v : Nat × Nat × Nat) (vs : List (Nat × Nat × Nat))
    (h : List.IsChain NonDecr (v :: vs)) : NonDecr v ((v :: vs).getLast (List.cons_ne_nil _ _)) :=
  Halo.C03.nonDecr_chain v vs h

/-- provision: share minted at or below both deposit ratios -/
theorem provide_nondecr {r0 r1 S d0 d1 m : Nat} (h0 : m * r0 ≤ d0 * S) (h1 : m * r1 ≤ d1 * S) :
    NonDecr (r0, r1, S) (r0 + d0, r1 + d1, S + m) := Halo.C03.provide_nondecr h0 h1

/-- withdrawal: refunds at or below the pro-rata share (the reserved unit keeps `a < S`) -/
theorem withdraw_nondecr {r0 r1 S x0 x1 a : Nat} (h0 : x0 * S ≤ r0 * a) (h1 : x1 * S ≤ r1 * a) (ha : a < S) :
    NonDecr (r0, r1, S) (r0 - x0, r1 - x1, S - a) := Halo.C03.withdraw_nondecr h0 h1 ha

/-- swap in either direction with a non-decreasing product -/
theorem swap_nondecr {x y x' y' S : Nat} (h : x * y ≤ x' * y') : NonDecr (x, y, S) (x', y', S) :=
  Halo.C03.swap_nondecr h

/-- direct donations to the pair -/
theorem donation_nondecr (r0 r1 S e0 e1 : Nat) : NonDecr (r0, r1, S) (r0 + e0, r1 + e1, S) :=
  Halo.C03.donation_nondecr r0 r1 S e0 e1

/-- a holder burning its own LP tokens -/
theorem burn_nondecr {r0 r1 S b : Nat} (hb : b < S) : NonDecr (r0, r1, S) (r0, r1, S - b) :=
  Halo.C03.burn_nondecr hb

/-- the share formula of the code satisfies the provision premise … -/
theorem lpShare_nondecr {sender : Nat} {req : Requirements} {S d0 d1 p0 p1 m : Nat}
    (hS : S ≠ 0) (h : lpShare sender req S d0 d1 p0 p1 = .ok m) :
    NonDecr (p0, p1, S) (p0 + d0, p1 + d1, S + m) := Halo.C03.lpShare_nondecr hS h

/-- … the refund formula the withdrawal premise … -/
theorem refund_nondecr {r0 r1 a S x0 x1 : Nat}
    (h0 : withdrawRefund r0 a S = .ok x0) (h1 : withdrawRefund r1 a S = .ok x1) (ha : a < S) :
    NonDecr (r0, r1, S) (r0 - x0, r1 - x1, S - a) := Halo.C03.refund_nondecr h0 h1 ha

/-- … and the pricing function the swap premise, outside the window (commission stays in the pool) -/
theorem computeSwap_nondecr {x y a c n s k S : Nat}
    (h : computeSwap x y a c = .ok (n, s, k)) (hw : inWindow x y a = false) :
    NonDecr (x, y, S) (x + a, y - n, S) ∧ NonDecr (y, x, S) (y - n, x + a, S) :=
  Halo.C03.computeSwap_nondecr h hw

/-- the unrestricted statement is false: on the input a repository test pins, the share value drops -/
theorem C03_full_is_false :
    computeSwap 340282366920938463463374607431 340282366920938463463374607431 1 30000000000000000 = .ok (1, 0, 0) ∧
    ¬ NonDecr (340282366920938463463374607431, 340282366920938463463374607431, 340282366920938463463374607431)
              (340282366920938463463374607431 + 1, 340282366920938463463374607431 - 1, 340282366920938463463374607431) :=
  Halo.C03.C03_full_is_false

example : NonDecr (1000, 4000, 2000) (1000 + 100, 4000 + 401, 2000 + 200) := by
  unfold NonDecr; decide

end Halo.Props.C03
