/-
C13 — router is a pure pass-through and delivers what it quoted.
Proved: the exact meaning of the route-shape check, the rejection of empty and multi-output routes,
the single-hop pass-through theorem (recipient receives exactly the router's quote; the input is consumed
entirely; the router keeps nothing), and the general fact that every hop spends the router's whole
balance of its offer asset.  The multi-hop induction is in Halo/Props/C13W.lean.
-/
import Halo.Proofs.C13

namespace Halo.Props.C13

/-- what `assert_operations` computes: the asks that are produced and never consumed by a later hop -/
theorem mem_danglingAsks {ops : List (String × String)} {x : String} :
    x ∈ danglingAsks ops ↔ ∃ i : Fin ops.length, (ops.get i).2 = x ∧ ∀ j : Fin ops.length, i < j → (ops.get j).1 ≠ x :=
  Halo.C13.mem_danglingAsks

theorem danglingAsks_nodup (ops : List (String × String)) : (danglingAsks ops).Nodup :=
  Halo.C13.danglingAsks_nodup ops

/-- the check accepts exactly the routes with one dangling output asset (by text) -/
theorem assertOperations_iff (ops : List (String × String)) :
    assertOperations ops = .ok () ↔ (danglingAsks ops).length = 1 := Halo.C13.assertOperations_iff ops

/-- empty routes and routes leaving two dangling outputs are rejected -/
theorem empty_rejected : assertOperations [] = .error .err := by decide
theorem two_outputs_rejected {o1 a1 o2 a2 : String} (h1 : a1 ≠ o2) (h2 : a1 ≠ a2) :
    assertOperations [(o1, a1), (o2, a2)] = .error .err := Halo.C13.two_outputs_rejected h1 h2
/-- a proper chain is accepted -/
theorem chain2_accepted {a b c : String} (h : b ≠ c) : assertOperations [(a, b), (b, c)] = .ok () :=
  Halo.C13.chain2_accepted h

/-- every hop offers the router's entire balance of the hop's offer asset (a hop whose offer asset the
router does not hold is rejected), and nothing of it is left afterwards -/
theorem hop_spends_whole_balance {w w' : World} {o a : Asset} {to : Option Nat}
    (h : routerHop w w.router o a to = .ok w') :
    ∃ R P, facLookup w o a = some R ∧ w.pair R.pair = some P ∧ bal w o w.router ≠ 0 ∧
      (R.pair ≠ w.router → P.a0 ≠ P.a1 → bal w' o w.router = 0) :=
  Halo.C13.hop_spends_whole_balance h

/-- single hop: the recipient receives exactly the amount the router's simulation quotes for the
router's input balance in the same state; all of the input is consumed; only the final asset reaches
the recipient -/
theorem single_hop_passthrough {name : Asset → String} {w w' : World} {sender : Nat} {o a : Asset}
    {mn to : Option Nat} {R : Record} {P : PairSt}
    (hR : facLookup w o a = some R) (hP : w.pair R.pair = some P)
    (hPa : (P.a0 = o ∧ P.a1 = a) ∨ (P.a0 = a ∧ P.a1 = o))   -- from the registry invariant: Halo.Props.C16W.lookup_sound
    (hne : P.a0 ≠ P.a1) (hoa : o ≠ a)
    (hpr : R.pair ≠ w.router) (hrcv1 : to.getD sender ≠ w.router) (hrcv2 : to.getD sender ≠ R.pair)
    (h : routerSwapOps name w sender [(o, a)] mn to = .ok w') :
    ∃ n, routerSimulateTop w (bal w o w.router) [(o, a)] = .ok n ∧
      bal w' a (to.getD sender) = bal w a (to.getD sender) + n ∧
      bal w' o w.router = 0 ∧ bal w' a w.router = bal w a w.router ∧
      (∀ b, b ≠ a → bal w' b (to.getD sender) = bal w b (to.getD sender)) :=
  Halo.C13.single_hop_passthrough hR hP hPa hne hoa hpr hrcv1 hrcv2 h

end Halo.Props.C13
