/-
C02, the credit side for general funds.  `Halo/Props/C02.lean` describes a direct swap from the world
`w0` at handler entry and gives "attached funds credited" only for single-coin funds
(`attach_single_effect`).  Here: the effect of the funds transfer for *any* coin list with pairwise
distinct denoms (the chain rejects duplicated denoms; cw-multi-test does not — DESIGN §6 C09), the
delivery of the native offer of a direct swap as a corollary, and the case `C02.swap_native_effect` /
`swap_hook_effect` leave open: the receiver of the swap is the pair itself.

`Halo.CallSites.coinOf funds d` is the amount of denom `d` the contract sees in `funds`,

  def coinOf (funds : List (Nat × Nat)) (d : Nat) : Nat := ((funds.find? (fun c => c.1 = d)).map (·.2)).getD 0

(first coin of that denom, 0 if absent) — the very quantity `Spec.c09` compares a declaration with.
-/
import Halo.Proofs.C02A

namespace Halo.Props.C02A
open Halo.CallSites (coinOf)

theorem c09_iff_coinOf {d amt : Nat} {funds : List (Nat × Nat)} :
    Spec.c09 d amt funds = true ↔ coinOf funds d = amt :=
  Halo.CallSites.c09_iff_coinOf

/-- `attach` (the funds of an execute message): for every denom the receiving contract's balance rises by
exactly the amount of that denom in the funds, the sender's falls by exactly that, and no other account
and no cw20 balance changes -/
theorem attach_effect {w w0 : World} {s p : Nat} {funds : List (Nat × Nat)} (hsp : s ≠ p)
    (hnd : (funds.map (·.1)).Nodup) (h : attach w s p funds = .ok w0) :
    (∀ d, bal w0 (.native d) p = bal w (.native d) p + coinOf funds d) ∧
    (∀ d, bal w0 (.native d) s + coinOf funds d = bal w (.native d) s) ∧
    (∀ d z, z ≠ s → z ≠ p → bal w0 (.native d) z = bal w (.native d) z) ∧
    (∀ t z, bal w0 (.token t) z = bal w (.token t) z) :=
  Halo.CallSites.attach_effect hsp hnd h

/-- a successful direct swap of `amt` of denom `d`: the funds carry exactly `amt` of `d`, and at handler
entry the pair's balance of `d` is its pre-transaction balance plus exactly `amt`, paid by the sender -/
theorem swap_native_delivered {w w' : World} {s p d amt : Nat} {funds : List (Nat × Nat)}
    {b ms toAddr : Option Nat} {out : Out} (hsp : s ≠ p) (hnd : (funds.map (·.1)).Nodup)
    (h : pairExec w s p funds (.swap (.native d) amt b ms toAddr) = .ok (w', out)) :
    ∃ P w0 o, w.pair p = some P ∧ attach w s p funds = .ok w0 ∧
      pairSwap w0 p P funds s (.native d) amt b ms toAddr = .ok (w', o) ∧ out = .swap o ∧
      coinOf funds d = amt ∧
      bal w0 (.native d) p = bal w (.native d) p + amt ∧
      bal w0 (.native d) s + amt = bal w (.native d) s :=
  Halo.CallSites.swap_native_delivered hsp hnd h

/-- the receiver is the pair itself (`to = pair`, or the pair trading with itself): the payout goes from
the pair to the pair, so after handler entry no balance of any account in any asset changes — in
particular nothing leaves the ask reserve -/
theorem swap_to_self {w0 w' : World} {p : Nat} {P : PairSt} {funds : List (Nat × Nat)} {trader : Nat}
    {offer : Asset} {amt : Nat} {b ms toAddr : Option Nat} {o : SwapOut}
    (hself : toAddr.getD trader = p)
    (h : pairSwap w0 p P funds trader offer amt b ms toAddr = .ok (w', o)) :
    (∀ a z, bal w' a z = bal w0 a z) ∧ (∀ t, supply w' t = supply w0 t) :=
  Halo.CallSites.swap_to_self hself h

/-- … for the direct entry point -/
theorem exec_swap_to_self {w w' : World} {s p d amt : Nat} {funds : List (Nat × Nat)}
    {b ms toAddr : Option Nat} {out : Out} (hself : toAddr.getD s = p)
    (h : pairExec w s p funds (.swap (.native d) amt b ms toAddr) = .ok (w', out)) :
    ∃ P w0 o, w.pair p = some P ∧ attach w s p funds = .ok w0 ∧ out = .swap o ∧
      bal w' o.ask p = bal w0 o.ask p ∧
      (∀ a z, bal w' a z = bal w0 a z) ∧ (∀ t, supply w' t = supply w0 t) :=
  Halo.CallSites.exec_swap_to_self hself h

/-- … and for the cw20 `Send` hook -/
theorem hook_swap_to_self {w w' : World} {t u p amt a : Nat} {offer : Asset}
    {b ms toAddr : Option Nat} {out : Out} (hself : toAddr.getD u = p)
    (h : tokSendPair w t u p amt (.swap offer a b ms toAddr) = .ok (w', out)) :
    ∃ P w0 o, w.pair p = some P ∧ tokTransfer w t u p amt = .ok w0 ∧ out = .swap o ∧
      bal w' o.ask p = bal w0 o.ask p ∧
      (∀ x z, bal w' x z = bal w0 x z) ∧ (∀ v, supply w' v = supply w0 v) :=
  Halo.CallSites.hook_swap_to_self hself h

end Halo.Props.C02A
