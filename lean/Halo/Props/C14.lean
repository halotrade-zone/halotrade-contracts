/-
C14 — privileged and internal entry points reject every other caller.
One theorem per guarded entry point: success ⇒ the caller is the authority.  A rejected call
changes nothing because a transaction is atomic (`step`).
-/
import Halo.Proofs.C14

namespace Halo.Props.C14

/-- every factory message (UpdateConfig, CreatePair, AddNativeTokenDecimals, MigratePair) succeeds only for the current owner -/
theorem factory_only_owner {w w' : World} {s : Nat} {funds : List (Nat × Nat)} {m : FacMsg}
    (h : facExec w s funds m = .ok w') : s = w.owner :=
  Halo.C14.factory_only_owner h

/-- ownership follows a successful configuration update … -/
theorem ownership_follows {w w' : World} {s o : Nat} {funds : List (Nat × Nat)} {tc pc : Option Nat}
    (h : facExec w s funds (.updateConfig (some o) tc pc) = .ok w') : w'.owner = o :=
  Halo.C14.ownership_follows h

/-- every field of a successful configuration update (owner, cw20 code id, pair code id) replaces the stored
one exactly when given, and is kept otherwise -/
theorem config_follows {w w' : World} {s : Nat} {funds : List (Nat × Nat)} {o tc pc : Option Nat}
    (h : facExec w s funds (.updateConfig o tc pc) = .ok w') :
    w'.owner = o.getD w.owner ∧ w'.tokenCode = tc.getD w.tokenCode ∧ w'.pairCode = pc.getD w.pairCode :=
  Halo.C14.config_follows h

/-- … and nothing else ever changes the owner -/
theorem owner_changes_only_by_owner {name : Asset → String} {w w' : World} {op : Op} {out : Out}
    (h : exec name w op = .ok (w', out)) :
    w'.owner = w.owner ∨
      ∃ s f o tc pc, op = .factory s f (.updateConfig (some o) tc pc) ∧ s = w.owner ∧ w'.owner = o :=
  Halo.C14.owner_changes_only_by_owner h

/-- a pair accepts a decimals update only from its factory -/
theorem pair_update_only_factory {w : World} {s p : Nat} {funds : List (Nat × Nat)} {d da db : Nat} {r : World × Out}
    (h : pairExec w s p funds (.updateDecimals d da db) = .ok r) : ∃ P, w.pair p = some P ∧ s = P.factory :=
  Halo.C14.pair_update_only_factory h

/-- a withdraw hook only from the pair's own LP token (whoever calls `Receive`, directly or through a cw20 `Send`) -/
theorem withdraw_hook_only_lp {w : World} {s p from_ amount : Nat} {funds : List (Nat × Nat)} {r : World × Out}
    (h : pairExec w s p funds (.receive from_ amount .withdraw) = .ok r) : ∃ P, w.pair p = some P ∧ s = P.lp :=
  Halo.C14.withdraw_hook_only_lp h

/-- a swap hook only from one of the pair's own cw20 assets, naming that very token and amount -/
theorem swap_hook_only_pair_token {w : World} {s p from_ amount : Nat} {funds : List (Nat × Nat)}
    {offer : Asset} {amt : Nat} {b ms to : Option Nat} {r : World × Out}
    (h : pairExec w s p funds (.receive from_ amount (.swap offer amt b ms to)) = .ok r) :
    ∃ P, w.pair p = some P ∧ (P.a0 = .token s ∨ P.a1 = .token s) ∧ offer = .token s ∧ amt = amount :=
  Halo.C14.swap_hook_only_pair_token h

/-- the same through a real cw20 `Send` -/
theorem send_hook_auth {w : World} {t u p amt : Nat} {h' : Hook} {r : World × Out}
    (h : tokSendPair w t u p amt h' = .ok r) :
    ∃ P, w.pair p = some P ∧
      (match h' with
       | .swap offer a _ _ _ => (P.a0 = .token t ∨ P.a1 = .token t) ∧ offer = .token t ∧ a = amt
       | .withdraw => t = P.lp
       | _ => False) :=
  Halo.C14.send_hook_auth h

/-- … and through `SendFrom` by a spender with the holder's allowance -/
theorem sendFrom_hook_auth {name : Asset → String} {w : World} {t sp o p amt : Nat} {h' : Hook} {r : World × Out}
    (hp : (w.pair p).isSome) (h : tokSendFrom name w t sp o p amt h' = .ok r) :
    ∃ P, w.pair p = some P ∧
      (match h' with
       | .swap offer a _ _ _ => (P.a0 = .token t ∨ P.a1 = .token t) ∧ offer = .token t ∧ a = amt
       | .withdraw => t = P.lp
       | _ => False) :=
  Halo.C14.sendFrom_hook_auth hp h

/-- cw20 `SendFrom` is exactly a `TransferFrom` by the spender followed by the `Receive` that the token contract
sends to the destination (`info.sender` = the token, `cw20_msg.sender` = the SPENDER, no funds): every statement about
a raw `Receive` (`Op.pair t d [] (.receive …)`, `Op.router t [] (.receive …)`) speaks about `SendFrom` too -/
theorem sendFrom_is_transferFrom_then_receive {name : Asset → String} {w : World} {t sp o d amt : Nat} {hk : Hook}
    {r : World × Out} :
    exec name w (.tokSendFrom t sp o d amt hk) = .ok r ↔
      ∃ w1, tokTransferFrom w t sp o d amt = .ok w1 ∧
        (((w.pair d).isSome ∧ exec name w1 (.pair t d [] (.receive sp amt hk)) = .ok r) ∨
         ((w.pair d).isSome = false ∧ d = w.router ∧ exec name w1 (.router t [] (.receive sp amt hk)) = .ok r)) :=
  Halo.C14.exec_tokSendFrom_iff

/-- malformed hooks are rejected -/
theorem garbage_hook_rejected {w : World} {s p from_ amount : Nat} {funds : List (Nat × Nat)} {r : World × Out} :
    pairExec w s p funds (.receive from_ amount .garbage) ≠ .ok r :=
  Halo.C14.garbage_hook_rejected

/-- execute-swap never accepts a token offer (tokens enter through their own `Send`) -/
theorem execute_swap_rejects_token_offer {w : World} {s p t amt : Nat} {funds : List (Nat × Nat)}
    {b ms to : Option Nat} {r : World × Out} :
    pairExec w s p funds (.swap (.token t) amt b ms to) ≠ .ok r :=
  Halo.C14.execute_swap_rejects_token_offer

/-- the router's single-hop and minimum-receive messages are accepted only from the router itself -/
theorem router_hop_only_self {name : Asset → String} {w w' : World} {s : Nat} {funds : List (Nat × Nat)}
    {o a : Asset} {to : Option Nat} (h : routerExec name w s funds (.swapOp o a to) = .ok w') : s = w.router :=
  Halo.C14.router_hop_only_self h
theorem router_assert_only_self {name : Asset → String} {w w' : World} {s : Nat} {funds : List (Nat × Nat)}
    {a : Asset} {prev m rcv : Nat} (h : routerExec name w s funds (.assertMin a prev m rcv) = .ok w') : s = w.router :=
  Halo.C14.router_assert_only_self h

/-- a rejected call changes no state and no balance -/
theorem rejected_unchanged {name : Asset → String} {w : World} {op : Op} {e : Err}
    (h : exec name w op = .error e) : step name w op = w :=
  step_of_error h

end Halo.Props.C14
