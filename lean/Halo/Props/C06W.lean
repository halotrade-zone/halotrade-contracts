/-
C06 at system level — the commission rate that prices every swap of a pair is fixed at creation, is at most 1
for every pair the factory creates, and never changes; neither do the pair's assets, LP token, requirements and
factory (only its decimals can be rewritten, by the factory's `AddNativeTokenDecimals` fan-out).
`FreshRun` (Halo/Proofs/Reach.lean): every step satisfies `FreshOK`; `ValidRun` implies it.
-/
import Halo.Proofs.Reach

namespace Halo.Props.C06W
open Halo.Reach

/-- one operation -/
theorem commission_fixed {name : Asset → String} {w w' : World} {op : Op} {out : Out} {p : Nat} {P : PairSt}
    (hf : FreshOK w op) (h : exec name w op = .ok (w', out)) (hP : w.pair p = some P) :
    ∃ P', w'.pair p = some P' ∧ P'.comm = P.comm ∧ P'.a0 = P.a0 ∧ P'.a1 = P.a1 ∧ P'.lp = P.lp ∧
      P'.req = P.req ∧ P'.factory = P.factory :=
  Halo.Reach.commission_fixed hf h hP

/-- any history -/
theorem commission_fixed_run {name : Asset → String} (ops : List Op) (w : World) (hf : FreshRun name w ops)
    {p : Nat} {P : PairSt} (hP : w.pair p = some P) :
    ∃ P', (run name w ops).pair p = some P' ∧ P'.comm = P.comm ∧ P'.a0 = P.a0 ∧ P'.a1 = P.a1 ∧ P'.lp = P.lp ∧
      P'.req = P.req ∧ P'.factory = P.factory :=
  Halo.Reach.commission_fixed_run ops w hf hP

theorem freshRun_of_validRun {name : Asset → String} (ops : List Op) (w : World) (h : ValidRun name w ops) :
    FreshRun name w ops :=
  Reach.StepsOK.mono (fun _ _ hv => hv.fresh) ops w (Reach.stepsOK_of_validRun ops w h)

/-- a pair created by the factory charges the requested rate (default 0.3%), which is at most 1 -/
theorem commission_le_one {w w' : World} {s : Nat} {a0 a1 : Asset} {req : Requirements} {comm lpDec : Option Nat}
    {np nl : Nat} (h : facCreatePair w s a0 a1 req comm lpDec np nl = .ok w') :
    ∃ P, w'.pair np = some P ∧ P.comm = comm.getD defaultCommission ∧ P.comm ≤ E :=
  Halo.Reach.commission_le_one h

/-- … and so in every later state (so `C06.computeSwap_spec`'s hypothesis `c ≤ E` holds for every swap on it) -/
theorem commission_le_one_forever {name : Asset → String} {w w' : World} {s : Nat} {a0 a1 : Asset}
    {req : Requirements} {comm lpDec : Option Nat} {np nl : Nat}
    (h : facCreatePair w s a0 a1 req comm lpDec np nl = .ok w') (ops : List Op) (hf : FreshRun name w' ops) :
    ∃ P, (run name w' ops).pair np = some P ∧ P.comm = comm.getD defaultCommission ∧ P.comm ≤ E ∧
      P.a0 = a0 ∧ P.a1 = a1 ∧ P.lp = nl :=
  Halo.Reach.commission_le_one_forever h ops hf

end Halo.Props.C06W
