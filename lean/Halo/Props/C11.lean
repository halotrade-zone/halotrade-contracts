/-
C11 — router delivers at least `minimum_receive` or the whole route reverts.
`w0` is the world at router entry, i.e. after the caller's funds (or cw20 send) were credited to the
router — so growth is measured net of what the recipient itself paid in that transaction.
-/
import Halo.Proofs.C11
import Halo.Proofs.Runs

namespace Halo.Props.C11

/-- core: an accepted route with `minimum_receive = m` ends with the recipient's balance of the final
asset at least `m` above its value at router entry -/
theorem route_min_receive {name : Asset → String} {w w' : World} {sender m : Nat} {ops : List (Asset × Asset)}
    {to : Option Nat} (h : routerSwapOps name w sender ops (some m) to = .ok w') :
    ∃ o target, ops.getLast? = some (o, target) ∧
      bal w target (to.getD sender) + m ≤ bal w' target (to.getD sender) :=
  Halo.C11.route_min_receive h

/-- entry point 1: native funds -/
theorem exec_min_receive {name : Asset → String} {w w' : World} {s m : Nat} {funds : List (Nat × Nat)}
    {ops : List (Asset × Asset)} {to : Option Nat}
    (h : routerExec name w s funds (.swapOps ops (some m) to) = .ok w') :
    ∃ w0 o target, attach w s w.router funds = .ok w0 ∧ ops.getLast? = some (o, target) ∧
      bal w0 target (to.getD s) + m ≤ bal w' target (to.getD s) :=
  Halo.C11.exec_min_receive h

/-- entry point 2: a cw20 `Send` to the router -/
theorem send_min_receive {name : Asset → String} {w w' : World} {t u amt m : Nat}
    {ops : List (Asset × Asset)} {to : Option Nat} {out : Out}
    (hr : (w.pair w.router).isNone)
    (h : tokSend name w t u w.router amt (.routerOps ops (some m) to) = .ok (w', out)) :
    ∃ w0 o target, tokTransfer w t u w.router amt = .ok w0 ∧ ops.getLast? = some (o, target) ∧
      bal w0 target (to.getD u) + m ≤ bal w' target (to.getD u) :=
  Halo.C11.send_min_receive hr h

/-- if the route would deliver less, the entire transaction fails and no balance or supply changes -/
theorem route_atomic {name : Asset → String} {w : World} {op : Op} {e : Err}
    (h : exec name w op = .error e) : step name w op = w :=
  step_of_error h

/-- empty routes are rejected -/
theorem empty_route_rejected {name : Asset → String} {w w' : World} {sender : Nat} {m to : Option Nat} :
    routerSwapOps name w sender [] m to ≠ .ok w' :=
  Halo.C11.empty_route_rejected

end Halo.Props.C11
