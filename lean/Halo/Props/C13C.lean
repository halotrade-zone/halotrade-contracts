/-
C13 at system level (call sites): `Halo/Props/C13.lean` proves what `assert_operations` means as a
function.  Here: every successful `ExecuteSwapOperations` — the handler, and the whole transaction
through each entry point (direct message, cw20 `Send` hook, raw `Receive`) — passed that check on the
texts of its route; hence the route is non-empty and leaves exactly one dangling output.
-/
import Halo.Proofs.CallSites

namespace Halo.Props.C13C

/-- an accepted `execute_swap_operations` passed the shape check -/
theorem swapOps_checked {name : Asset → String} {w w' : World} {sender : Nat} {ops : List (Asset × Asset)}
    {mn toAddr : Option Nat} (h : routerSwapOps name w sender ops mn toAddr = .ok w') :
    assertOperations (opsTexts name ops) = .ok () :=
  Halo.CallSites.swapOps_checked h

/-- the router's `execute`, direct message -/
theorem routerExec_swapOps_checked {name : Asset → String} {w w' : World} {s : Nat} {funds : List (Nat × Nat)}
    {ops : List (Asset × Asset)} {mn toAddr : Option Nat}
    (h : routerExec name w s funds (.swapOps ops mn toAddr) = .ok w') :
    assertOperations (opsTexts name ops) = .ok () :=
  Halo.CallSites.routerExec_swapOps_checked h

/-- the router's `execute`, a raw `Receive` (from anyone) -/
theorem routerExec_receive_checked {name : Asset → String} {w w' : World} {s : Nat} {funds : List (Nat × Nat)}
    {from_ amount : Nat} {ops : List (Asset × Asset)} {mn toAddr : Option Nat}
    (h : routerExec name w s funds (.receive from_ amount (.routerOps ops mn toAddr)) = .ok w') :
    assertOperations (opsTexts name ops) = .ok () :=
  Halo.CallSites.routerExec_receive_checked h

/-- transaction: direct `ExecuteSwapOperations` -/
theorem exec_swapOps_checked {name : Asset → String} {w w' : World} {s : Nat} {funds : List (Nat × Nat)}
    {ops : List (Asset × Asset)} {mn toAddr : Option Nat} {out : Out}
    (h : exec name w (.router s funds (.swapOps ops mn toAddr)) = .ok (w', out)) :
    assertOperations (opsTexts name ops) = .ok () :=
  Halo.CallSites.exec_swapOps_checked h

/-- transaction: cw20 `Send` to the router carrying the route -/
theorem exec_tokSend_checked {name : Asset → String} {w w' : World} {t s amt : Nat}
    {ops : List (Asset × Asset)} {mn toAddr : Option Nat} {out : Out}
    (h : exec name w (.tokSend t s w.router amt (.routerOps ops mn toAddr)) = .ok (w', out)) :
    assertOperations (opsTexts name ops) = .ok () :=
  Halo.CallSites.exec_tokSend_checked h

/-- more generally a successful cw20 `Send` carrying a route hook went to the router (a pair rejects the
hook) and passed the check -/
theorem tokSend_routerOps_checked {name : Asset → String} {w w' : World} {t s dst amt : Nat}
    {ops : List (Asset × Asset)} {mn toAddr : Option Nat} {out : Out}
    (h : tokSend name w t s dst amt (.routerOps ops mn toAddr) = .ok (w', out)) :
    dst = w.router ∧ assertOperations (opsTexts name ops) = .ok () :=
  Halo.CallSites.tokSend_routerOps_checked h

/-- transaction: raw `Receive` sent to the router -/
theorem exec_receive_checked {name : Asset → String} {w w' : World} {s : Nat} {funds : List (Nat × Nat)}
    {from_ amount : Nat} {ops : List (Asset × Asset)} {mn toAddr : Option Nat} {out : Out}
    (h : exec name w (.router s funds (.receive from_ amount (.routerOps ops mn toAddr))) = .ok (w', out)) :
    assertOperations (opsTexts name ops) = .ok () :=
  Halo.CallSites.exec_receive_checked h

/-- what the check means (`Halo.Props.C13.assertOperations_iff`, `empty_rejected`): the route is not empty
and exactly one ask asset (by text) is produced and never consumed by a later hop -/
theorem checked_shape {name : Asset → String} {ops : List (Asset × Asset)}
    (h : assertOperations (opsTexts name ops) = .ok ()) :
    ops ≠ [] ∧ (danglingAsks (opsTexts name ops)).length = 1 :=
  Halo.CallSites.checked_shape h

end Halo.Props.C13C
