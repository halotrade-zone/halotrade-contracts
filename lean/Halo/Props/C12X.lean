/-
C12X — the reverse formula `compute_offer_amount` on EVERY successful call (no `Spec.c12Domain`
hypothesis), and the band in which the code succeeds although the documented real closed form
`x·y/(y − ask/(1−γ)) − x` is undefined.

The code subtracts from `y` the ROUNDED quantity `qR b c = ⌊b·⌊E²/(E−c)⌋/E⌋` and succeeds whenever
`qR b c < y`; the closed form needs the real `ask/(1−γ) < y` (`γ = c/E`).  Always
`qR b c ≤ ask/(1−γ) < qR b c + 1 + ask/E`, so the code's denominator `y − q` is never smaller than
the ideal one, and the band `q < y ≤ ask/(1−γ)` only contains asks within `ask/E` (< 1 base unit
for asks below 10^18) of draining the pool.
-/
import Halo.Proofs.C12X

namespace Halo.Props.C12X
open Halo.C12X (qR)

/-- `qR` is the rounded `ask/(1−γ)` of `C12.reverse_closed_form` -/
theorem qR_eq (b c : Nat) : qR b c = b * (E * E / (E - c)) / E := rfl

/-! ### the two floors: `q ≤ ask/(1−γ) < q + 1 + ask/E` (pure arithmetic, `c < 1` only) -/

/-- `q ≤ ask/(1−γ)` -/
theorem rounded_le {b c : Nat} (hc : c < E) : qR b c * (E - c) ≤ b * E :=
  Halo.C12X.rounded_le hc

/-- `ask/(1−γ) < q + 1 + ask/E`, tight integer form -/
theorem rounded_gap {b c : Nat} (hc : c < E) :
    b * E * E + b + (E - c) ≤ (qR b c + 1) * E * (E - c) + b * (E - c) :=
  Halo.C12X.rounded_gap hc

/-- `ask/(1−γ) < q + 1 + ask/E`, strict form -/
theorem rounded_gap_lt {b c : Nat} (hc : c < E) :
    b * E * E < (qR b c + 1) * E * (E - c) + b * (E - c) :=
  Halo.C12X.rounded_gap_lt hc

/-- the same divided by `E`: `ask·E ≤ (q+1)(E−c) + ⌊ask·(E−c)/E⌋` -/
theorem rounded_gap_div {b c : Nat} (hc : c < E) :
    b * E ≤ (qR b c + 1) * (E - c) + b * (E - c) / E :=
  Halo.C12X.rounded_gap_div hc

/-! ### 1. lower side, every successful call -/

/-- success gives `c < 1`, `q < y`, and `o + x` is exactly `⌊x·y/(y−q)⌋` -/
theorem reverse_exact {x y b c o s k : Nat}
    (h : computeOfferAmount x y b c = .ok (o, s, k)) :
    c < E ∧ qR b c < y ∧ o + x = x * y / (y - qR b c) :=
  Halo.C12X.reverse_exact h

/-- `o > x·y/(y−q) − x − 1`, with `q ≤ ask/(1−γ) < q + 1 + ask/E` -/
theorem reverse_lower_always {x y b c o s k : Nat}
    (h : computeOfferAmount x y b c = .ok (o, s, k)) :
    x * y < (o + x + 1) * (y - qR b c) ∧
    qR b c * (E - c) ≤ b * E ∧
    b * E * E + b + (E - c) ≤ (qR b c + 1) * E * (E - c) + b * (E - c) :=
  Halo.C12X.reverse_lower_always h

/-- the perturbed denominator `y − ask/(1−γ) + ask/E + 1` of `Spec.c12ReverseLower` (scaled by
`E(E−c)`) exceeds the code's denominator `y − q ≥ 1` on every successful call: the documented lower
bound is meaningful (not vacuous) off the domain as well -/
theorem perturbed_den_gt {x y b c o s k : Nat}
    (h : computeOfferAmount x y b c = .ok (o, s, k)) :
    (y - qR b c) * E * (E - c) + b * E * E <
      y * E * (E - c) + b * (E - c) + E * (E - c) :=
  Halo.C12X.perturbed_den_gt h

/-- `Spec.c12ReverseLower` without `Spec.c12Domain` -/
theorem reverse_ge_closed_form_always {x y b c o s k : Nat}
    (h : computeOfferAmount x y b c = .ok (o, s, k)) :
    Spec.c12ReverseLower x y b c o = true :=
  Halo.C12X.reverse_ge_closed_form_always h

/-! ### 2. upper side, every successful call -/

/-- `o ≤ x·y/(y−q) − x` -/
theorem reverse_upper_always {x y b c o s k : Nat}
    (h : computeOfferAmount x y b c = .ok (o, s, k)) :
    (o + x) * (y - qR b c) ≤ x * y :=
  Halo.C12X.reverse_upper_always h

/-- sanity: the unconditional upper bound implies the documented one, `Spec.c12Reverse`
(whose truncated factor `y(E−c) − ask·E` is 0 off the domain: it says nothing there) -/
theorem upper_always_imp_closed_form {x y b c o : Nat} (hc : c < E) (hq : qR b c < y)
    (hu : (o + x) * (y - qR b c) ≤ x * y) :
    Spec.c12Reverse x y b c o = true :=
  decide_eq_true (C12.upper_core (C12X.rounded_le hc) hu)

/-! ### 3. the band `q < y ≤ ask/(1−γ)` -/

/-- success off the domain: `c < 1`, `q < y ≤ ask/(1−γ)`; the band is narrow:
`ask/(1−γ) < y + ask/E` (tight integer form, and divided by `E`), and there `y − q < 1 + ask/E` -/
theorem band_characterisation {x y b c o s k : Nat}
    (h : computeOfferAmount x y b c = .ok (o, s, k)) (hnd : ¬ Spec.c12Domain y b c = true) :
    c < E ∧ qR b c < y ∧ y * (E - c) ≤ b * E ∧
    b * E * E + b + (E - c) ≤ y * E * (E - c) + b * (E - c) ∧
    b * E ≤ y * (E - c) + b * (E - c) / E ∧
    y * E * (E - c) + b + (E - c) ≤ (qR b c + 1) * E * (E - c) + b * (E - c) :=
  Halo.C12X.band_characterisation h hnd

/-- in the band, boundary: `γ = 0.003`, `ask = 997`, `y = 1000`, so `ask/(1−γ) = y` exactly and the
closed form divides by zero; `⌊E²/(E−c)⌋ = 1003009027081243731` is inexact, `q = 999`, and the code
quotes `x·y/1 − x = 999·x` -/
example : computeOfferAmount 1000000 1000 997 3000000000000000 = .ok (999000000, 998001, 2) ∧
    qR 997 3000000000000000 = 999 ∧
    Spec.c12Domain 1000 997 3000000000000000 = false ∧
    1000 * (E - 3000000000000000) = 997 * E ∧
    Spec.c12ReverseLower 1000000 1000 997 3000000000000000 999000000 = true := by decide

/-- in the band, strictly inside: `ask/(1−γ) > y` (the closed form is negative), `q = y − 1`, and the
code quotes `(y−1)·x`; one unit more of `y` and the input is back on the domain -/
example : computeOfferAmount 1000000 6000000000000667 5982000000000665 3000000000000000 =
      .ok (6000000000000666000000, 36000000000007992000000000443556, 18000000000001) ∧
    qR 5982000000000665 3000000000000000 = 6000000000000666 ∧
    Spec.c12Domain 6000000000000667 5982000000000665 3000000000000000 = false ∧
    6000000000000667 * (E - 3000000000000000) < 5982000000000665 * E ∧
    Spec.c12ReverseLower 1000000 6000000000000667 5982000000000665 3000000000000000
      6000000000000666000000 = true ∧
    Spec.c12Domain 6000000000000668 5982000000000665 3000000000000000 = true := by decide

/-! ### 4. rational readings (`γ = c/E`) -/

/-- `(o+x+1)(y−q) > x·y` is `o > x·y/(y−q) − x − 1` -/
theorem lower_always_rat {x y q o : Nat} (hq : q < y) :
    x * y < (o + x + 1) * (y - q) ↔
      (x : ℚ) * y / ((y : ℚ) - q) - x - 1 < (o : ℚ) :=
  Halo.C12X.lower_always_rat hq

/-- `(o+x)(y−q) ≤ x·y` is `o ≤ x·y/(y−q) − x` -/
theorem upper_always_rat {x y q o : Nat} (hq : q < y) :
    (o + x) * (y - q) ≤ x * y ↔
      (o : ℚ) ≤ (x : ℚ) * y / ((y : ℚ) - q) - x :=
  Halo.C12X.upper_always_rat hq

/-- `t·(E−c) ≤ ask·E` is `t ≤ ask/(1−γ)` -/
theorem le_ideal_rat {t b c : Nat} (hc : c < E) :
    t * (E - c) ≤ b * E ↔ (t : ℚ) ≤ (b : ℚ) / (1 - (c : ℚ) / E) :=
  Halo.C12X.le_ideal_rat hc

/-- `ask·E·E < t·E·(E−c) + ask·(E−c)` is `ask/(1−γ) < t + ask/E` -/
theorem lt_ideal_gap_rat {t b c : Nat} (hc : c < E) :
    b * E * E < t * E * (E - c) + b * (E - c) ↔
      (b : ℚ) / (1 - (c : ℚ) / E) < (t : ℚ) + (b : ℚ) / E :=
  Halo.C12X.lt_ideal_gap_rat hc

/-- `Spec.c12ReverseLower` reads `o > x·y/(y − ask/(1−γ) + ask/E + 1) − x − 1` as soon as that
denominator is positive — which every successful call gives (`perturbed_den_gt`) -/
theorem c12ReverseLower_rat_of_pos {x y b c o : Nat} (hc : c < E)
    (hpos : b * E * E < y * E * (E - c) + b * (E - c) + E * (E - c)) :
    Spec.c12ReverseLower x y b c o = true ↔
      (x : ℚ) * y / ((y : ℚ) - (b : ℚ) / (1 - (c : ℚ) / E) + (b : ℚ) / E + 1) - x - 1 < (o : ℚ) :=
  Halo.Rational.c12ReverseLower_rat_of_pos hc hpos

/-- off the domain (with `c < 1`) is exactly `y ≤ ask/(1−γ)` -/
theorem not_domain_rat {y b c : Nat} (hc : c < E) :
    ¬ Spec.c12Domain y b c = true ↔ (y : ℚ) ≤ (b : ℚ) / (1 - (c : ℚ) / E) :=
  Halo.C12X.not_domain_rat hc

/-- every successful call, over ℚ: `x·y/(y−q) − x − 1 < o ≤ x·y/(y−q) − x`,
`q ≤ ask/(1−γ) < q + 1 + ask/E`, and the documented lower bound -/
theorem reverse_bounds_rat {x y b c o s k : Nat}
    (h : computeOfferAmount x y b c = .ok (o, s, k)) :
    (c : ℚ) < E ∧ (qR b c : ℚ) < y ∧
    (x : ℚ) * y / ((y : ℚ) - qR b c) - x - 1 < (o : ℚ) ∧
    (o : ℚ) ≤ (x : ℚ) * y / ((y : ℚ) - qR b c) - x ∧
    (qR b c : ℚ) ≤ (b : ℚ) / (1 - (c : ℚ) / E) ∧
    (b : ℚ) / (1 - (c : ℚ) / E) < (qR b c : ℚ) + 1 + (b : ℚ) / E ∧
    (x : ℚ) * y / ((y : ℚ) - (b : ℚ) / (1 - (c : ℚ) / E) + (b : ℚ) / E + 1) - x - 1 < (o : ℚ) :=
  Halo.C12X.reverse_bounds_rat h

/-- the band over ℚ: `q < y ≤ ask/(1−γ) < y + ask/E`, and `y − q < 1 + ask/E` -/
theorem band_rat {x y b c o s k : Nat}
    (h : computeOfferAmount x y b c = .ok (o, s, k)) (hnd : ¬ Spec.c12Domain y b c = true) :
    (qR b c : ℚ) < y ∧ (y : ℚ) ≤ (b : ℚ) / (1 - (c : ℚ) / E) ∧
    (b : ℚ) / (1 - (c : ℚ) / E) < (y : ℚ) + (b : ℚ) / E ∧
    (y : ℚ) - qR b c < 1 + (b : ℚ) / E :=
  Halo.C12X.band_rat h hnd

end Halo.Props.C12X
