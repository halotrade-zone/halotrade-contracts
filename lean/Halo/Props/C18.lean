/-
C18 — decimal and integer text, JSON (with escape sequences) and width conversions are lossless.
Text is a byte list (`Halo.Text`); `denote` / `valOf` give the number a numeral denotes, independently
of the parser; `canonicalDec` / `canonicalInt` recognise the canonical numerals
`0|[1-9][0-9]*` (optionally `.` and 1–18 digits not ending in `0`).
-/
import Halo.Proofs.C18

namespace Halo.Props.C18
open Halo.Text

/-- render → parse is the identity on every 256-bit integer -/
theorem uint_parse_render {v : Nat} (h : v < U) : uintParse (uintRender v) = .ok v :=
  Halo.C18.uint_parse_render h

/-- render → parse is the identity on every Decimal256 value -/
theorem dec_parse_render {v : Nat} (h : v < U) : decParse (decRender v) = .ok v :=
  Halo.C18.dec_parse_render h

/-- the rendered integer is the canonical numeral of exactly that number -/
theorem uint_render_canonical (v : Nat) : canonicalInt (uintRender v) = true ∧ valOf (uintRender v) = v :=
  Halo.C18.uint_render_canonical v

/-- the rendered decimal is the canonical numeral of exactly `v / 10^18` -/
theorem dec_render_canonical (v : Nat) : canonicalDec (decRender v) = true ∧ denote (decRender v) = some v :=
  Halo.C18.dec_render_canonical v

/-- every accepted string parses to exactly the number it denotes — and the accepted strings are
exactly the numerals (digits, at most one dot, at most 18 fractional digits) whose value fits 256 bits -/
theorem dec_parse_ok_iff {s : List Nat} {v : Nat} : decParse s = .ok v ↔ denote s = some v ∧ v < U :=
  Halo.C18.dec_parse_ok_iff

theorem uint_parse_ok_iff {s : List Nat} {v : Nat} :
    uintParse s = .ok v ↔ s.all isDigit = true ∧ valOf s = v ∧ v < U :=
  Halo.C18.uint_parse_ok_iff

/-- more than 18 fractional digits are an error (even zeros) -/
theorem dec_parse_19_digits {w f : List Nat} (hw : 46 ∉ w) (hf : 46 ∉ f) (h : 18 < f.length) :
    ∀ v, decParse (w ++ [46] ++ f) ≠ .ok v :=
  Halo.C18.dec_parse_19_digits hw hf h

/-- JSON: both types serialise as the quoted `Display` text, and decoding it gives the value back -/
theorem dec_json_roundtrip {v : Nat} (h : v < U) : (jsonDec (jsonEnc (decRender v)) >>= decParse) = .ok v := by
  rw [C18.jsonDec_enc (fun b hb => C18.printable_of_digit (C18.decRender_bytes v b hb))]
  exact C18.dec_parse_render h
theorem uint_json_roundtrip {v : Nat} (h : v < U) : (jsonDec (jsonEnc (uintRender v)) >>= uintParse) = .ok v := by
  unfold uintRender
  rw [C18.jsonDec_enc (fun b hb => C18.printable_of_digit (Or.inl (C18.render_digits v b hb)))]
  exact C18.uint_parse_render h

/-- unescaping does nothing to an ASCII text without a backslash (in particular to every rendered numeral) -/
theorem jsonUnescape_id {s : List Nat} (h : ∀ b ∈ s, b ≠ 92 ∧ b < 128) : jsonUnescape s = .ok s :=
  Halo.C18.jsonUnescape_id h

/-- JSON escapes are transparent: an accepted JSON text is whitespace, a quoted body, whitespace, and the
value is exactly the number denoted by the *unescaped* body (`"\u0031"` is 1, `"1\u002e5"` is 1.5) -/
theorem json_parse_denotes {j : List Nat} {v : Nat} (h : (jsonDec j >>= decParse) = .ok v) :
    ∃ pre body post s, j = pre ++ [34] ++ body ++ [34] ++ post ∧
      pre.all isJsonWs = true ∧ post.all isJsonWs = true ∧
      jsonUnescape body = .ok s ∧ decParse s = .ok v ∧ denote s = some v ∧ v < U := by
  obtain ⟨pre, body, post, s, hj, h1, h2, hu, hp⟩ := C18.json_parse_ok h
  exact ⟨pre, body, post, s, hj, h1, h2, hu, hp, C18.dec_parse_ok_iff.1 hp⟩
theorem json_parse_denotes_uint {j : List Nat} {v : Nat} (h : (jsonDec j >>= uintParse) = .ok v) :
    ∃ pre body post s, j = pre ++ [34] ++ body ++ [34] ++ post ∧
      pre.all isJsonWs = true ∧ post.all isJsonWs = true ∧
      jsonUnescape body = .ok s ∧ parseDigits s = .ok v ∧ s.all isDigit = true ∧ valOf s = v ∧ v < U := by
  obtain ⟨pre, body, post, s, hj, h1, h2, hu, hp⟩ := C18.json_parse_ok h
  exact ⟨pre, body, post, s, hj, h1, h2, hu, hp, C18.uint_parse_ok_iff.1 hp⟩

/-- width conversions: `u128 → Uint256 → u128` is the identity; narrowing aborts iff the value does not fit -/
theorem u128_roundtrip {w : Nat} (h : w < W) : toU128 (ofU128 w) = .ok w := by
  rw [ofU128_eq]
  exact (toU128_ok (Nat.lt_trans h W_lt_U)).2 ⟨h, rfl⟩
theorem narrowing_iff {v r : Nat} (h : v < U) : toU128 v = .ok r ↔ v < W ∧ r = v := Halo.toU128_ok h

/-- `Decimal256 → cosmwasm Decimal` (two limb `assert!`s, then `to_string` / `from_str`) preserves the
atomics or aborts: it succeeds iff the atomics fit 128 bits, and is then the identity on them; it is the
limb check `toU128` and nothing else -/
theorem dec_to_std_iff {v r : Nat} (h : v < U) : decToStd v = .ok r ↔ v < W ∧ r = v :=
  Halo.C18.dec_to_std_iff h
theorem dec_to_std_abort {v : Nat} (h : v < U) : decToStd v = .error .abort ↔ W ≤ v :=
  Halo.C18.dec_to_std_abort h
theorem dec_to_std_eq {v : Nat} (h : v < U) : decToStd v = toU128 v := Halo.C18.decToStd_eq h
/-- `cosmwasm Decimal → Decimal256` (through `to_string` / `from_str`) is the identity on the atomics -/
theorem dec_from_std_id {a : Nat} (h : a < W) : decFromStd a = .ok a :=
  Halo.C18.dec_from_std_id h
theorem dec_std_roundtrip {a : Nat} (h : a < W) : (decFromStd a >>= decToStd) = .ok a := by
  rw [C18.dec_from_std_id h]
  exact (C18.dec_to_std_iff (Nat.lt_trans h W_lt_U)).2 ⟨h, rfl⟩

example : decRender 1500000000000000000 = [49, 46, 53] := by decide +kernel
example : decParse [49, 46, 53] = .ok 1500000000000000000 := by decide +kernel
example : decParse [] = .ok 0 := by decide +kernel
example : decParse [49, 46, 50, 46, 51] = .error .err := by decide +kernel

/-- `"\u0031"` is 1 (as a decimal: 10^18 atomics) -/
example : (jsonDec [34, 92, 117, 48, 48, 51, 49, 34] >>= decParse) = .ok 1000000000000000000 := by
  decide +kernel
example : (jsonDec [34, 92, 117, 48, 48, 51, 49, 34] >>= uintParse) = .ok 1 := by decide +kernel
/-- `"1\u002e5"` is 1.5 -/
example : (jsonDec [34, 49, 92, 117, 48, 48, 50, 101, 53, 34] >>= decParse) = .ok 1500000000000000000 := by
  decide +kernel
/-- `"\u0031\u0032"` is 12, `"\u002E"` is the decimal 0, whitespace around the string is fine -/
example : (jsonDec [32, 34, 92, 117, 48, 48, 51, 49, 92, 117, 48, 48, 51, 50, 34, 10] >>= uintParse) = .ok 12 := by
  decide +kernel
example : (jsonDec [34, 92, 117, 48, 48, 50, 69, 34] >>= decParse) = .ok 0 := by decide +kernel
/-- malformed escapes are errors: `"\x"`, `"\u12"`, `"\ud800"`, `"1\"` ; so is a raw control byte next to
an escape (`"\u0031<TAB>"`) and an unescaped quote inside (`"1"2"`) -/
example : jsonDec [34, 92, 120, 34] = .error .err := by decide +kernel
example : jsonDec [34, 92, 117, 49, 50, 34] = .error .err := by decide +kernel
example : jsonDec [34, 92, 117, 100, 56, 48, 48, 34] = .error .err := by decide +kernel
example : jsonDec [34, 49, 92, 34] = .error .err := by decide +kernel
example : jsonDec [34, 92, 117, 48, 48, 51, 49, 9, 34] = .error .err := by decide +kernel
example : jsonDec [34, 49, 34, 50, 34] = .error .err := by decide +kernel
/-- a surrogate pair is one character: `"\ud83d\ude00"` is U+1F600, `f0 9f 98 80` -/
example : jsonDec [34, 92, 117, 100, 56, 51, 100, 92, 117, 100, 101, 48, 48, 34] = .ok [240, 159, 152, 128] := by
  decide +kernel

end Halo.Props.C18
