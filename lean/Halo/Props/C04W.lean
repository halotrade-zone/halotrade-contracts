/-
C04 at system level: the effect of a withdrawal `lp.Send{pair, a, WithdrawLiquidity}` by holder `h`.
-/
import Halo.Proofs.Liquidity

namespace Halo.Props.C04W

/-- a successful withdrawal pays the holder exactly the reported refunds, each within the pro-rata
bracket of the reserves and supply before the transaction, lowers the LP supply and the holder's LP
balance by exactly `a`, and changes nobody else's balances -/
theorem withdraw_effect {w w' : World} {t h p a x0 x1 : Nat} {P : PairSt}
    (hP : w.pair p = some P) (hhp : h ≠ p) (hne : P.a0 ≠ P.a1) (hl0 : P.a0 ≠ .token P.lp) (hl1 : P.a1 ≠ .token P.lp)
    (hx : tokSendPair w t h p a .withdraw = .ok (w', .withdraw x0 x1)) :
    t = P.lp ∧ 1 ≤ a ∧ a ≤ bal w (.token P.lp) h ∧
    Spec.c04 (bal w P.a0 p) a (supply w P.lp) x0 = true ∧ Spec.c04 (bal w P.a1 p) a (supply w P.lp) x1 = true ∧
    supply w' P.lp + a = supply w P.lp ∧
    bal w' (.token P.lp) h + a = bal w (.token P.lp) h ∧
    bal w' (.token P.lp) p = bal w (.token P.lp) p ∧
    bal w' P.a0 h = bal w P.a0 h + x0 ∧ bal w' P.a1 h = bal w P.a1 h + x1 ∧
    bal w' P.a0 p + x0 = bal w P.a0 p ∧ bal w' P.a1 p + x1 = bal w P.a1 p ∧
    (∀ b z, z ≠ h → z ≠ p → bal w' b z = bal w b z) ∧
    (∀ u, u ≠ P.lp → supply w' u = supply w u) :=
  Halo.Liquidity.withdraw_effect hP hhp hne hl0 hl1 hx

end Halo.Props.C04W
