/-
C12 — quotes are faithful to execution (function level: the reverse formula `compute_offer_amount`
against the documented closed form `x·y/(y − ask/(1−c)) − x`).  The forward part
(simulation = execution) and the router folds are world-level theorems (Halo/Props/C12W.lean).
-/
import Halo.Proofs.C12

namespace Halo.Props.C12

/-- the offer amount in closed integer form -/
theorem reverse_closed_form {x y b c o s k : Nat}
    (h : computeOfferAmount x y b c = .ok (o, s, k)) :
    c < E ∧ b * (E * E / (E - c)) / E < y ∧
    o = x * y / (y - b * (E * E / (E - c)) / E) - x :=
  Halo.C12.reverse_closed_form h

/-- never above the documented closed form on its domain (`c < 1`, `ask/(1−c) < y`) -/
theorem reverse_le_closed_form {x y b c o s k : Nat}
    (h : computeOfferAmount x y b c = .ok (o, s, k)) (hd : Spec.c12Domain y b c = true) :
    Spec.c12Reverse x y b c o = true :=
  Halo.C12.reverse_le_closed_form h hd

/-- below it by at most the stated rounding -/
theorem reverse_ge_closed_form {x y b c o s k : Nat}
    (h : computeOfferAmount x y b c = .ok (o, s, k)) (hd : Spec.c12Domain y b c = true) :
    Spec.c12ReverseLower x y b c o = true :=
  Halo.C12.reverse_ge_closed_form h hd

/-- the reported commission is `⌊c · ⌊ask/(1−c)⌋⌋` -/
theorem reverse_commission {x y b c o s k : Nat}
    (h : computeOfferAmount x y b c = .ok (o, s, k)) :
    k = b * (E * E / (E - c)) / E * c / E :=
  Halo.C12.reverse_commission h

/-- the reverse quote is monotone: asking for more never quotes a smaller required offer -/
theorem reverse_mono_ask {x y b b' c o s k o' s' k' : Nat}
    (h : computeOfferAmount x y b c = .ok (o, s, k))
    (h' : computeOfferAmount x y b' c = .ok (o', s', k')) (hb : b ≤ b') : o ≤ o' :=
  Halo.C12.reverse_mono_ask h h' hb

/-- non-vacuity of `reverse_mono_ask`, strictly -/
example : computeOfferAmount 1000000 2000000 1993 3000000000000000 = .ok (999, 0, 5) ∧
    computeOfferAmount 1000000 2000000 2989 3000000000000000 = .ok (1500, 3, 8) := by decide

example : computeOfferAmount 1000000 2000000 1993 3000000000000000 = .ok (999, 0, 5) ∧
    Spec.c12Domain 2000000 1993 3000000000000000 = true ∧
    Spec.c12Reverse 1000000 2000000 1993 3000000000000000 999 = true ∧
    Spec.c12ReverseLower 1000000 2000000 1993 3000000000000000 999 = true := by decide

end Halo.Props.C12
