/-
C10 — a swap that succeeds honours max_spread and belief_price (function level: `assert_max_spread`).
`p`, `ms` are `Decimal` atomics (value·10^18).  The bounds are the cross-multiplied integer forms in
`Halo.Spec`; `o`, `r`, `s` are the decimals-normalised offer, return and spread.
-/
import Halo.Proofs.C10

namespace Halo.Props.C10

/-- the normalisation multiplies the side with fewer decimals by `10^|od − rd|` -/
theorem norm_correct {offer ret spread od rd o r s : Nat}
    (h : normSpread offer ret spread od rd = .ok (o, r, s)) :
    (rd < od → o = offer ∧ r = ret * 10 ^ (od - rd) ∧ s = spread * 10 ^ (od - rd)) ∧
    (od < rd → o = offer * 10 ^ (rd - od) ∧ r = ret ∧ s = spread) ∧
    (od = rd → o = offer ∧ r = ret ∧ s = spread) :=
  Halo.C10.norm_correct h

/-- the normalisation succeeds for every pair of decimals up to 19 apart unless a scaled amount leaves 128 bits -/
theorem norm_ok_iff {offer ret spread od rd : Nat} :
    (∃ t, normSpread offer ret spread od rd = .ok t) ↔
      (rd < od → 10 ^ (od - rd) < L ∧ ret * 10 ^ (od - rd) < W ∧ spread * 10 ^ (od - rd) < W) ∧
      (od < rd → 10 ^ (rd - od) < L ∧ offer * 10 ^ (rd - od) < W) :=
  Halo.C10.norm_ok_iff

/-- belief-price branch, soundness: accepted ⇒ `r > (o/p − 1)(1 − σ − 10⁻¹⁸)` whenever `o/p > 1`, `σ < 1` -/
theorem belief_sound {p ms offer ret spread od rd o r s : Nat}
    (hn : normSpread offer ret spread od rd = .ok (o, r, s))
    (h : assertMaxSpread (some p) (some ms) offer ret spread od rd = .ok ()) :
    Spec.c10BeliefSound o r p ms = true :=
  Halo.C10.belief_sound hn h

/-- belief-price branch, completeness: rejected by the guard ⇒ `r < (o/p)(1 − σ)` -/
theorem belief_complete {p ms offer ret spread od rd o r s : Nat}
    (hn : normSpread offer ret spread od rd = .ok (o, r, s))
    (h : assertMaxSpread (some p) (some ms) offer ret spread od rd = .error .guard) :
    Spec.c10BeliefComplete o r p ms = true :=
  Halo.C10.belief_complete hn h

/-- spread-only branch, soundness: accepted ⇒ `s/(r+s) < σ + 10⁻¹⁸` -/
theorem spread_sound {ms offer ret spread od rd o r s : Nat}
    (hn : normSpread offer ret spread od rd = .ok (o, r, s))
    (h : assertMaxSpread none (some ms) offer ret spread od rd = .ok ()) :
    Spec.c10SpreadSound r s ms = true :=
  Halo.C10.spread_sound hn h

/-- spread-only branch, completeness: rejected by the guard ⇒ `s/(r+s) > σ` -/
theorem spread_complete {ms offer ret spread od rd o r s : Nat}
    (hn : normSpread offer ret spread od rd = .ok (o, r, s))
    (h : assertMaxSpread none (some ms) offer ret spread od rd = .error .guard) :
    Spec.c10SpreadComplete r s ms = true :=
  Halo.C10.spread_complete hn h

/-- without `max_spread` the guard never rejects -/
theorem no_limit_no_guard {belief : Option Nat} {offer ret spread od rd : Nat} :
    assertMaxSpread belief none offer ret spread od rd ≠ .error .guard :=
  Halo.C10.no_limit_no_guard

/-- a guard rejection is only ever produced after a successful normalisation -/
theorem guard_needs_norm {belief ms : Option Nat} {offer ret spread od rd : Nat}
    (h : assertMaxSpread belief ms offer ret spread od rd = .error .guard) :
    ∃ t, normSpread offer ret spread od rd = .ok t :=
  Halo.C10.guard_needs_norm h

/-- "honours max_spread" is monotone in the limit: a swap accepted under `max_spread = ms` is accepted
under every larger limit, with or without a belief price -/
theorem spread_mono_limit {belief : Option Nat} {ms ms' offer ret spread od rd : Nat}
    (h : assertMaxSpread belief (some ms) offer ret spread od rd = .ok ()) (hm : ms ≤ ms') :
    assertMaxSpread belief (some ms') offer ret spread od rd = .ok () :=
  Halo.C10.spread_mono_limit h hm

/-- the converse fails: the swap rejected at 1% passes at 2% -/
example : assertMaxSpread (some E) (some (E / 50)) 1000 989 0 6 6 = .ok () := by decide

example : assertMaxSpread (some E) (some (E / 100)) 1000 990 0 6 6 = .ok () := by decide
example : assertMaxSpread (some E) (some (E / 100)) 1000 989 0 6 6 = .error .guard := by decide
example : assertMaxSpread none (some (E / 100)) 1000 990 11 6 6 = .error .guard := by decide
example : assertMaxSpread none (some (E / 100)) 1000 99 1 6 6 = .ok () := by decide

end Halo.Props.C10
