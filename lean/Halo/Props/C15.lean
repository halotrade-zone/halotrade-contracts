/-
C15 — provision succeeds only within the caller's slippage tolerance
(function level: `assert_slippage_tolerance`; `t` in `Decimal` atomics).
-/
import Halo.Proofs.C15

namespace Halo.Props.C15

/-- accepted ⇒ both `(d_i/d_j)(1−τ) < r_i/r_j + 2·10⁻¹⁸` -/
theorem slippage_sound {t d0 d1 r0 r1 : Nat}
    (h : assertSlippage (some t) d0 d1 r0 r1 = .ok ()) :
    Spec.c15Sound t d0 d1 r0 r1 = true :=
  Halo.C15.slippage_sound h

/-- rejected by the guard ⇒ not both `(d_i/d_j)(1−τ) ≤ r_i/r_j − 10⁻¹⁸` -/
theorem slippage_complete {t d0 d1 r0 r1 : Nat}
    (h : assertSlippage (some t) d0 d1 r0 r1 = .error .guard) :
    t ≤ E ∧ Spec.c15Complete t d0 d1 r0 r1 = true :=
  Halo.C15.slippage_complete h

/-- a tolerance above 100% is always rejected -/
theorem slippage_gt_one {t d0 d1 r0 r1 : Nat} (h : E < t) :
    assertSlippage (some t) d0 d1 r0 r1 = .error .err :=
  Halo.C15.slippage_gt_one h

/-- no tolerance, no check -/
theorem slippage_none {d0 d1 r0 r1 : Nat} : assertSlippage none d0 d1 r0 r1 = .ok () := rfl

/-- besides the guard and the >100% error the only failures are aborts, and those need a zero
deposit, a zero reserve or a 256-bit overflow of `d·10^18` / `r·10^18` / the ratio product -/
theorem slippage_no_abort {t d0 d1 r0 r1 : Nat} (ht : t ≤ E)
    (hd0 : 0 < d0) (hd1 : 0 < d1) (hr0 : 0 < r0) (hr1 : 0 < r1)
    (hd0W : d0 < W) (hd1W : d1 < W) (hr0W : r0 < W) (hr1W : r1 < W) :
    assertSlippage (some t) d0 d1 r0 r1 = .ok () ∨ assertSlippage (some t) d0 d1 r0 r1 = .error .guard :=
  Halo.C15.slippage_no_abort ht hd0 hd1 hr0 hr1 hd0W hd1W hr0W hr1W

/-- "only within the caller's tolerance" is monotone: a provision accepted at tolerance `t` is
accepted at every larger tolerance up to 100% (raising the tolerance never turns success into failure) -/
theorem slippage_mono_tolerance {t t' d0 d1 r0 r1 : Nat}
    (h : assertSlippage (some t) d0 d1 r0 r1 = .ok ()) (htt : t ≤ t') (ht' : t' ≤ E) :
    assertSlippage (some t') d0 d1 r0 r1 = .ok () :=
  Halo.C15.slippage_mono_tolerance h htt ht'

/-- non-vacuity, and the converse direction fails: the 2%-off deposit passes at 5% but not at 1% -/
example : assertSlippage (some (E / 20)) 1020 2000 1000000 2000000 = .ok () := by decide

example : assertSlippage (some (E / 100)) 1000 2000 1000000 2000000 = .ok () := by decide
example : assertSlippage (some (E / 100)) 1020 2000 1000000 2000000 = .error .guard := by decide

end Halo.Props.C15
