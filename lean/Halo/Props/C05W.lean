/-
C05 at system level: the effect of a provision.
`w0` is the world at handler entry (attached native deposits credited).
-/
import Halo.Proofs.Liquidity

namespace Halo.Props.C05W

/-- a successful provision on a pair with positive supply: mints `m ≥ 1` within the fair bracket of the
reserves net of the caller's native deposit, to the chosen receiver; pulls exactly the declared cw20
deposits from the caller's own allowance; native deposits equal the attached funds -/
theorem provide_effect_pos {w0 w' : World} {p : Nat} {P : PairSt} {s : Nat} {funds : List (Nat × Nat)}
    {as0 as1 : Asset} {am0 am1 : Nat} {tol rcv : Option Nat} {m : Nat}
    (hsp : s ≠ p) (hne : P.a0 ≠ P.a1) (hl0 : P.a0 ≠ .token P.lp) (hl1 : P.a1 ≠ .token P.lp)
    (hS : supply w0 P.lp ≠ 0)
    (h : pairProvide w0 p P s funds as0 am0 as1 am1 tol rcv = .ok (w', m)) :
    ∃ d0 d1,
      ((as0 = P.a0 ∧ d0 = am0) ∨ (as0 ≠ P.a0 ∧ as1 = P.a0 ∧ d0 = am1)) ∧
      ((as0 = P.a1 ∧ d1 = am0) ∨ (as0 ≠ P.a1 ∧ as1 = P.a1 ∧ d1 = am1)) ∧
      -- natives: declared = attached, already in the pair at entry; tokens: pulled now
      (∀ d, P.a0 = .native d → Spec.c09 d d0 funds = true ∧ bal w' P.a0 p = bal w0 P.a0 p) ∧
      (∀ d, P.a1 = .native d → Spec.c09 d d1 funds = true ∧ bal w' P.a1 p = bal w0 P.a1 p) ∧
      (∀ t, P.a0 = .token t → bal w' P.a0 p = bal w0 P.a0 p + d0 ∧ bal w' P.a0 s + d0 = bal w0 P.a0 s) ∧
      (∀ t, P.a1 = .token t → bal w' P.a1 p = bal w0 P.a1 p + d1 ∧ bal w' P.a1 s + d1 = bal w0 P.a1 s) ∧
      -- the share
      1 ≤ m ∧
      Spec.c05Pos (supply w0 P.lp) d0 d1
        (match P.a0 with | .native _ => bal w0 P.a0 p - d0 | .token _ => bal w0 P.a0 p)
        (match P.a1 with | .native _ => bal w0 P.a1 p - d1 | .token _ => bal w0 P.a1 p) m = true ∧
      supply w' P.lp = supply w0 P.lp + m ∧
      bal w' (.token P.lp) (rcv.getD s) = bal w0 (.token P.lp) (rcv.getD s) + m ∧
      -- nobody else
      (∀ b z, z ≠ s → z ≠ p → z ≠ rcv.getD s → bal w' b z = bal w0 b z) :=
  Halo.Liquidity.provide_effect_pos hsp hne hl0 hl1 hS h

/-- on an empty pair only a whitelisted caller meeting both minimums can provide; the supply becomes
`⌊√(d0·d1)⌋`, of which exactly one unit is minted to the LP token's own address -/
theorem provide_effect_empty {w0 w' : World} {p : Nat} {P : PairSt} {s : Nat} {funds : List (Nat × Nat)}
    {as0 as1 : Asset} {am0 am1 : Nat} {tol rcv : Option Nat} {m : Nat}
    (hl0 : P.a0 ≠ .token P.lp) (hl1 : P.a1 ≠ .token P.lp) (hrl : rcv.getD s ≠ P.lp)
    (hS : supply w0 P.lp = 0)
    (h : pairProvide w0 p P s funds as0 am0 as1 am1 tol rcv = .ok (w', m)) :
    ∃ d0 d1,
      ((as0 = P.a0 ∧ d0 = am0) ∨ (as0 ≠ P.a0 ∧ as1 = P.a0 ∧ d0 = am1)) ∧
      ((as0 = P.a1 ∧ d1 = am0) ∨ (as0 ≠ P.a1 ∧ as1 = P.a1 ∧ d1 = am1)) ∧
      Spec.c05Empty s P.req d0 d1 (m + 1) = true ∧ 1 ≤ m ∧
      supply w' P.lp = m + 1 ∧
      bal w' (.token P.lp) P.lp = bal w0 (.token P.lp) P.lp + 1 ∧
      bal w' (.token P.lp) (rcv.getD s) = bal w0 (.token P.lp) (rcv.getD s) + m :=
  Halo.Liquidity.provide_effect_empty hl0 hl1 hrl hS h

/-- the reserved unit can never be spent: no operation submitted by anyone but the LP token address
itself (a contract address, which originates no operations) lowers that address' own LP balance -/
theorem reserved_unit_unspendable {name : Asset → String} {w w' : World} {op : Op} {out : Out} {p : Nat} {P : PairSt}
    (hP : w.pair p = some P) (hlpp : (w.pair P.lp).isNone) (hlr : P.lp ≠ w.router)
    (hnoallow : ∀ T, w.tok P.lp = some T → ∀ s, T.allow P.lp s = none)
    (hact : actorOf op ≠ P.lp) (hf : FreshOK w op)
    (h : exec name w op = .ok (w', out)) :
    bal w (.token P.lp) P.lp ≤ bal w' (.token P.lp) P.lp :=
  Halo.Liquidity.reserved_unit_unspendable hP hlpp hlr hnoallow hact hf h

end Halo.Props.C05W
