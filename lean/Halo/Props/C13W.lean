/-
C13 at system level, any number of hops: for an accepted route whose hops use pairwise distinct pairs,
executed while the router holds none of the route's assets except the input, the recipient receives exactly
the amount the router's simulation quotes for that input in the same state; all of the input is consumed,
every intermediate asset ends at zero in the router, and only the final asset reaches the recipient.
-/
import Halo.Proofs.C13W

namespace Halo.Props.C13W

/- `RouteOK` is declared in `Halo/Proofs/C13W.lean` (the proofs need to mention it) as

structure RouteOK (w : World) (rcv : Nat) (ops : List (Asset × Asset)) : Prop where
  resolves : ∀ h ∈ ops, ∃ R P, facLookup w h.1 h.2 = some R ∧ w.pair R.pair = some P ∧
      ((P.a0 = h.1 ∧ P.a1 = h.2) ∨ (P.a0 = h.2 ∧ P.a1 = h.1)) ∧ h.1 ≠ h.2 ∧ R.pair ≠ w.router ∧ R.pair ≠ rcv
  distinctPairs : (ops.map fun h => (facLookup w h.1 h.2).map (·.pair)).Nodup
  routerEmpty : ∀ h ∈ ops, ∀ b, (b = h.1 ∨ b = h.2) → b ≠ (ops.head?.map (·.1)).getD b → bal w b w.router = 0
  rcvNotRouter : rcv ≠ w.router
  routerNoPair : (w.pair w.router).isNone

the hypotheses under which a route is a pure pass-through, checked hop by hop against the state
in which the route starts: every hop resolves to a registered pair over exactly its two (distinct) assets,
the pairs are pairwise distinct, none is the router or the recipient, and the router holds nothing of any
asset of the route other than the first hop's offer asset -/
open Halo.C13W (RouteOK)

/-- the hops of a successful route deliver exactly the router's quote -/
theorem route_passthrough {w w' : World} {rcv : Nat} {ops : List (Asset × Asset)}
    (hok : RouteOK w rcv ops) (hne : ops ≠ [])
    (h : routerHops w rcv ops = .ok w') :
    ∃ target n, (ops.getLast?.map (·.2)) = some target ∧
      routerSimulateTop w (bal w ((ops.head?.map (·.1)).getD target) w.router) ops = .ok n ∧
      -- (ii) the recipient receives exactly the quoted amount of the final asset
      (∀ first, ops.head?.map (·.1) = some first → first ≠ target →
        bal w' target rcv = bal w target rcv + n) ∧
      -- (iii) the router keeps nothing of any route asset (the input is consumed entirely)
      (∀ hp ∈ ops, ∀ b, (b = hp.1 ∨ b = hp.2) → b ≠ target → bal w' b w.router = 0) ∧
      bal w' target w.router = bal w target w.router -
        (if ops.head?.map (·.1) = some target then bal w target w.router else 0) ∧
      -- (iv) no intermediate asset reaches the recipient
      (∀ b, b ≠ target → bal w' b rcv = bal w b rcv) :=
  Halo.C13W.route_passthrough hok hne h

/-- the same for the whole `ExecuteSwapOperations` transaction (the trailing minimum-receive assertion
changes nothing) -/
theorem swapOps_passthrough {name : Asset → String} {w w' : World} {sender : Nat} {ops : List (Asset × Asset)}
    {mn tgt : Option Nat} (hok : RouteOK w (tgt.getD sender) ops)
    (h : routerSwapOps name w sender ops mn tgt = .ok w') :
    routerHops w (tgt.getD sender) ops = .ok w' ∧ ops ≠ [] := by
  obtain ⟨_, hl, _, hh, _⟩ := routerSwapOps_ok h
  exact ⟨hh, fun e => by rw [e] at hl; cases hl⟩

end Halo.Props.C13W
