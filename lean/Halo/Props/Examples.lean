/-
Non-vacuity witnesses: concrete, realistic worlds (`w0`; `w1`, the same with a funded router; `wA`, the same with an
aliased identifier) on which the structured hypotheses of the main
world-level theorems (`RegOK`, `RawOK`, `PairInv`, `ValidOp`, `RouteOK`, the hypotheses of
`withdraw_live`) hold, and on which those theorems are instantiated to concrete consequences.
-/
import Halo.Props.C02
import Halo.Props.C03W
import Halo.Props.C13W
import Halo.Props.C16W
import Halo.Props.C16R
import Halo.Props.C20
import Halo.Props.C03G
import Halo.Props.C20W

namespace Halo.Props.Examples

def rawId0 : Asset → Bytes
  | .native d => [110, d + 2]
  | .token t => [116, t + 2]

def noReq : Requirements := { whitelist := [2, 3], min0 := 0, min1 := 0 }

def tok8 : Token :=
  { bal := fun a =>
      if a = 1 then 5000000 else if a = 2 then 3000000 else if a = 3 then 1000000
      else if a = 11 then 2000000 else if a = 13 then 1000000 else 0
    allow := fun _ _ => none
    supply := 12000000
    minter := some 0
    decimals := 6 }

def tok9 : Token :=
  { bal := fun a => if a = 1 then 100 else if a = 2 then 200 else 0
    allow := fun _ _ => none
    supply := 300
    minter := some 0
    decimals := 8 }

/-- LP token of pair 11: the reserved unit sits at the token's own address -/
def lp12 : Token :=
  { bal := fun a => if a = 12 then 1 else if a = 2 then 1000000 else if a = 3 then 414212 else 0
    allow := fun _ _ => none
    supply := 1414213
    minter := some 11
    decimals := 6 }

/-- LP token of pair 13 -/
def lp14 : Token :=
  { bal := fun a => if a = 14 then 1 else if a = 3 then 1414212 else 0
    allow := fun _ _ => none
    supply := 1414213
    minter := some 13
    decimals := 6 }

def pair11 : PairSt :=
  { a0 := .native 0, a1 := .token 8, d0 := 6, d1 := 6, lp := 12, comm := defaultCommission,
    req := noReq, factory := 6 }

def pair13 : PairSt :=
  { a0 := .token 8, a1 := .native 1, d0 := 6, d1 := 6, lp := 14, comm := defaultCommission,
    req := noReq, factory := 6 }

def rec11 : Record :=
  { a0 := .native 0, a1 := .token 8, pair := 11, lp := 12, d0 := 6, d1 := 6, req := noReq,
    comm := defaultCommission }

def rec13 : Record :=
  { a0 := .token 8, a1 := .native 1, pair := 13, lp := 14, d0 := 6, d1 := 6, req := noReq,
    comm := defaultCommission }

def bank0 : Nat → Nat → Nat := fun a d =>
  if a = 1 ∨ a = 2 ∨ a = 3 then (if d = 0 ∨ d = 1 then 10000000 else 0)
  else if a = 11 then (if d = 0 then 1000000 else 0)
  else if a = 13 then (if d = 1 then 2000000 else 0)
  else 0

/-- owner 0, users 1 2 3, factory 6, router 7, cw20 tokens 8 9, pair 11 (native 0 / token 8, LP 12),
pair 13 (token 8 / native 1, LP 14) -/
def w0 : World :=
  { bank := bank0
    tok := fun a =>
      if a = 8 then some tok8 else if a = 9 then some tok9
      else if a = 12 then some lp12 else if a = 14 then some lp14 else none
    pair := fun a => if a = 11 then some pair11 else if a = 13 then some pair13 else none
    facAddr := 6
    owner := 0
    denoms := fun d => if d = 0 ∨ d = 1 then some 6 else none
    registry :=
      regInsert (pairKey (rawId0 (.token 8)) (rawId0 (.native 1))) rec13
        (regInsert (pairKey (rawId0 (.native 0)) (rawId0 (.token 8))) rec11 [])
    rawId := rawId0
    router := 7 }

/-- the same world with the router holding 5000 of native 0 (and nothing else) -/
def w1 : World :=
  { w0 with bank := fun a d => if a = 7 then (if d = 0 then 5000 else 0) else bank0 a d }

def name0 : Asset → String := fun _ => ""

theorem exists_pair_of_isOk {α β} {x : M (α × β)} (h : x.isOk = true) : ∃ a b, x = .ok (a, b) := by
  obtain ⟨⟨a, b⟩, hv⟩ := exists_of_isOk h
  exact ⟨a, b, hv⟩

/-- what holds of the value of either branch holds of the value of the conditional -/
theorem forall_some_ite {α} {Q : α → Prop} {c : Prop} [Decidable c] {a b : Option α}
    (ha : ∀ x, a = some x → Q x) (hb : ∀ x, b = some x → Q x) : ∀ x, (if c then a else b) = some x → Q x := by
  split <;> assumption

def key11 : Bytes := [0, 0, 0, 2, 110, 2, 116, 10]
def key13 : Bytes := [0, 0, 0, 2, 110, 3, 116, 10]

theorem registry_eq : w0.registry = [(key11, rec11), (key13, rec13)] := rfl

theorem rawId0_inj : ∀ a b, rawId0 a = rawId0 b → a = b
  | .native _, .native _, h => by cases h; rfl
  | .token _, .token _, h => by cases h; rfl
  | .native _, .token _, h => by cases h
  | .token _, .native _, h => by cases h

theorem rawId0_length (a : Asset) : (rawId0 a).length = 2 := by cases a <;> rfl

theorem rawOK_w0 : RawOK w0 where
  inj := fun a b _ _ => rawId0_inj a b
  short := fun a => (rawId0_length a).trans_lt (by decide)

/-- a statement about every entry of the registry is one about its two records -/
theorem forall_registry {P : Bytes × Record → Prop} (h11 : P (key11, rec11)) (h13 : P (key13, rec13)) :
    ∀ e ∈ w0.registry, P e := by
  rw [registry_eq]
  exact List.forall_mem_cons.2 ⟨h11, List.forall_mem_singleton.2 h13⟩

theorem regOK_w0 : RegOK w0 where
  sorted := by rw [registry_eq]; decide
  keyed := forall_registry rfl rfl
  matched := forall_registry ⟨pair11, rfl, rfl, rfl, rfl, rfl, rfl, rfl, rfl, rfl⟩
    ⟨pair13, rfl, rfl, rfl, rfl, rfl, rfl, rfl, rfl, rfl⟩
  distinctPairs := by rw [registry_eq]; decide
  distinctAssets := forall_registry (by decide) (by decide)
  denomsKnown := forall_registry (P := fun e => ∀ d, (e.2.a0 = .native d ∨ e.2.a1 = .native d) → (w0.denoms d).isSome)
    (fun d hd => by rcases hd with hd | hd <;> cases hd; rfl)
    (fun d hd => by rcases hd with hd | hd <;> cases hd; rfl)
  live := forall_registry (by decide) (by decide)

/-! An aliased identifier: why `RawOK.inj` speaks about live assets only.

`wA` is `w0` in an environment where the identifier `token 108` — think of the upper-case spelling of the address of
the cw20 contract `token 8` — canonicalises to the raw identifier of `token 8`.  It is not a contract (`¬ Live`).
`rawId` is not injective on all identifiers there, yet `RawOK` and `RegOK` hold.  A lookup with the alias returns the
record of the live pair, which is not over the queried identifiers: `lookup_sound` gives the queried assets themselves
only when they are live. -/

def rawIdA : Asset → Bytes := fun a => if a = .token 108 then rawId0 (.token 8) else rawId0 a

def wA : World := { w0 with rawId := rawIdA }

theorem alias_not_live : ¬ Live wA (.token 108) := by decide

theorem alias_same_raw : wA.rawId (.token 108) = wA.rawId (.token 8) ∧ Live wA (.token 8) := by decide

/-- `rawId` is not injective on all identifiers in `wA` … -/
theorem old_inj_fails_wA : ¬ ∀ a b, wA.rawId a = wA.rawId b → a = b := by
  intro h
  exact absurd (h (.token 108) (.token 8) alias_same_raw.1) (by decide)

theorem rawIdA_length (a : Asset) : (rawIdA a).length = 2 := by
  unfold rawIdA; split <;> exact rawId0_length _

/-- … but it is on the live ones -/
theorem rawOK_wA : RawOK wA where
  inj := by
    intro a b la lb h
    have ha : a ≠ .token 108 := by rintro rfl; exact alias_not_live la
    have hb : b ≠ .token 108 := by rintro rfl; exact alias_not_live lb
    simp only [wA, rawIdA, if_neg ha, if_neg hb] at h
    exact rawId0_inj a b h
  short := fun a => (rawIdA_length a).trans_lt (by decide)

/-- only `keyed` reads the raw identifiers -/
theorem regOK_wA : RegOK wA :=
  { regOK_w0 with
    keyed := forall_registry (P := fun e => e.1 = pairKey (rawIdA e.2.a0) (rawIdA e.2.a1)) rfl rfl }

/-- the alias is looked up as the live token (instance of `C16W.lookup_by_raw`) … -/
theorem alias_lookup : facLookup wA (.native 0) (.token 108) = some rec11 := by
  rw [Halo.Props.C16W.lookup_by_raw (w := wA) (a' := .native 0) (b' := .token 8) rfl alias_same_raw.1]
  rfl

/-- … so the record returned is NOT over the queried identifiers (the query is not live) — it is over their raw
identifiers, and over live assets (instances of `C16W.lookup_sound`, `C16W.lookup_live`) -/
theorem alias_lookup_not_old :
    ¬ ((rec11.a0 = .native 0 ∧ rec11.a1 = .token 108) ∨ (rec11.a0 = .token 108 ∧ rec11.a1 = .native 0)) := by decide

theorem alias_lookup_sound :
    (wA.rawId rec11.a0 = wA.rawId (.native 0) ∧ wA.rawId rec11.a1 = wA.rawId (.token 108)) ∧
    Live wA rec11.a0 ∧ Live wA rec11.a1 := by
  obtain ⟨hraw, _⟩ := Halo.Props.C16W.lookup_sound regOK_wA rawOK_wA alias_lookup
  obtain ⟨l0, l1, _⟩ := Halo.Props.C16W.lookup_live regOK_wA alias_lookup
  refine ⟨?_, l0, l1⟩
  rcases hraw with h | ⟨h, _⟩
  · exact h
  · exact absurd h (by decide)

/-- with live query assets the lookup theorem gives the assets themselves -/
theorem live_lookup_sound {R : Record} (h : facLookup wA (.token 8) (.native 0) = some R) :
    (R.a0 = .token 8 ∧ R.a1 = .native 0) ∨ (R.a0 = .native 0 ∧ R.a1 = .token 8) :=
  (Halo.Props.C16W.lookup_sound regOK_wA rawOK_wA h).2 (by decide) (by decide)

theorem tokSumOK_lp12 : TokSumOK w0 12 :=
  Bounded.of_support (S := [12, 2, 3]) (f := lp12.bal) (by decide) (by
    intro a ha
    simp at ha
    simp [lp12, ha])

theorem tokSumOK_lp14 : TokSumOK w0 14 :=
  Bounded.of_support (S := [14, 3]) (f := lp14.bal) (by decide) (by
    intro a ha
    simp at ha
    simp [lp14, ha])

theorem tokSumOK_tok8 : TokSumOK w0 8 :=
  Bounded.of_support (S := [1, 2, 3, 11, 13]) (f := tok8.bal) (by decide) (by
    intro a ha
    simp at ha
    simp [tok8, ha])

theorem tokSumOK_tok9 : TokSumOK w0 9 :=
  Bounded.of_support (S := [1, 2]) (f := tok9.bal) (by decide) (by
    intro a ha
    simp at ha
    simp [tok9, ha])

/-- nobody has granted any cw20 allowance in `w0` -/
theorem noAllow_w0 (t : Nat) : ∀ T, w0.tok t = some T → ∀ o s, T.allow o s = none :=
  have one {T0 : Token} (h0 : ∀ o s, T0.allow o s = none) : ∀ T, some T0 = some T → ∀ o s, T.allow o s = none :=
    fun _ e => Option.some.inj e ▸ h0
  forall_some_ite (one (T0 := tok8) fun _ _ => rfl) <| forall_some_ite (one (T0 := tok9) fun _ _ => rfl) <|
    forall_some_ite (one (T0 := lp12) fun _ _ => rfl) <| forall_some_ite (one (T0 := lp14) fun _ _ => rfl) nofun

theorem pairInv_11 : PairInv w0 11 (.native 0) (.token 8) 12 where
  pair := ⟨pair11, rfl, rfl, rfl, rfl⟩
  distinct := by decide
  notLp0 := by decide
  notLp1 := by decide
  lpLive := ⟨lp12, rfl, rfl⟩
  live0 := by intro t h; cases h
  live1 := by intro t h; cases h; rfl
  sumOK := tokSumOK_lp12
  reserved := by intro _; decide
  lpNoPair := rfl
  lpNotRouter := by decide
  pNotRouter := by decide
  noAllow := fun t T hT s => ⟨noAllow_w0 t T hT _ s, noAllow_w0 t T hT _ s⟩

theorem pairInv_13 : PairInv w0 13 (.token 8) (.native 1) 14 where
  pair := ⟨pair13, rfl, rfl, rfl, rfl⟩
  distinct := by decide
  notLp0 := by decide
  notLp1 := by decide
  lpLive := ⟨lp14, rfl, rfl⟩
  live0 := by intro t h; cases h; rfl
  live1 := by intro t h; cases h
  sumOK := tokSumOK_lp14
  reserved := by intro _; decide
  lpNoPair := rfl
  lpNotRouter := by decide
  pNotRouter := by decide
  noAllow := fun t T hT s => ⟨noAllow_w0 t T hT _ s, noAllow_w0 t T hT _ s⟩

theorem isActor_1 : IsActor w0 1 := by unfold IsActor; decide
theorem isActor_2 : IsActor w0 2 := by unfold IsActor; decide
theorem isActor_3 : IsActor w0 3 := by unfold IsActor; decide
theorem isActor_0 : IsActor w0 0 := by unfold IsActor; decide
/-- contracts are not actors -/
theorem not_isActor_11 : ¬ IsActor w0 11 := by unfold IsActor; decide
theorem not_isActor_7 : ¬ IsActor w0 7 := by unfold IsActor; decide

/-- an operation other than a factory message is trivially fresh -/
theorem freshOK_of (w : World) (op : Op) (h : ∀ s f m, op ≠ .factory s f m) : FreshOK w op :=
  fun s f _ _ _ _ _ _ _ e => absurd e (h s f _)

/-- a pair creation at the unused addresses 15, 16 is fresh in `w0` (a non-trivial instance) -/
theorem freshOK_create :
    FreshOK w0 (.factory 0 [] (.createPair (.token 9) (.native 0) noReq none none 15 16)) := by
  intro s f a0 a1 req c ld np nl h
  cases h
  exact ⟨rfl, rfl, rfl⟩

theorem create_runs : ∃ w' out,
    exec name0 w0 (.factory 0 [] (.createPair (.token 9) (.native 0) noReq none none 15 16)) = .ok (w', out) :=
  exists_pair_of_isOk (by decide +kernel)

/-- ... and that creation succeeds and preserves `RegOK` (instance of `C16W.regOK_step`) -/
theorem create_ok : ∃ w' out,
    exec name0 w0 (.factory 0 [] (.createPair (.token 9) (.native 0) noReq none none 15 16)) = .ok (w', out) ∧
    RegOK w' := by
  obtain ⟨w', out, h⟩ := create_runs
  refine ⟨w', out, h, Halo.Props.C16W.regOK_step regOK_w0 rawOK_w0 ?_ ?_ h⟩
  · intro s p f m h; cases h
  · intro s f a0 a1 req c ld np nl h; exact (freshOK_create s f a0 a1 req c ld np nl h).1

/-- the LP token address 16 carries a raw identifier no live asset carries: `RawFreshOK` holds for that creation, so it
preserves `RawOK` as well (instance of `C16R.rawOK_step`) -/
theorem rawFreshOK_create :
    Halo.Reach.RawFreshOK w0 (.factory 0 [] (.createPair (.token 9) (.native 0) noReq none none 15 16)) :=
  Halo.Props.C16R.rawFreshOK_createPair.2 fun _ _ hne h => hne (rawId0_inj _ _ h)

theorem create_keeps_rawOK {w' : World} {out : Out}
    (h : exec name0 w0 (.factory 0 [] (.createPair (.token 9) (.native 0) noReq none none 15 16)) = .ok (w', out)) :
    RawOK w' :=
  Halo.Props.C16R.rawOK_step rawOK_w0 rawFreshOK_create h

/-- the hypotheses of the genesis theorem `C03G.created_pair_inv` are met by that creation: the owner (account 0) is an
external actor, the addresses 15 / 16 are fresh and allocated as the environment does, and the creation succeeds — so
the new pair satisfies `PairInv` with zero supply -/
theorem create_establishes_inv : ∃ w', PairInv w' 15 (.token 9) (.native 0) 16 ∧ supply w' 16 = 0 := by
  obtain ⟨w', out, h⟩ := create_runs
  have hv : ValidOp w0 (.factory 0 [] (.createPair (.token 9) (.native 0) noReq none none 15 16)) :=
    { actor := isActor_0, fresh := freshOK_create, coins := by decide }
  have hn : NewAddrs w0 15 16 :=
    { ne := by decide, pairFree := rfl, npNotRouter := by decide, nlNotRouter := by decide
      noAllow := fun t T hT s => ⟨noAllow_w0 t T hT _ s, noAllow_w0 t T hT _ s⟩ }
  exact ⟨w', Halo.Props.C03G.created_pair_inv hv hn h⟩

/-! A direct swap on pair 11 -/

def op1 : Op := .pair 1 11 [(0, 1000)] (.swap (.native 0) 1000 none none none)

theorem validOp_op1 : ValidOp w0 op1 where
  actor := isActor_1
  fresh := freshOK_of _ _ (by intro _ _ _ e; cases e)
  coins := by decide

theorem op1_ok : ∃ w' out, exec name0 w0 op1 = .ok (w', out) :=
  exists_pair_of_isOk (by decide +kernel)

theorem op1_swaps : swapsOn w0 op1 = [(11, 1000000, 2000000, 1000)] := by decide +kernel

theorem op1_not_windowed : ¬ WindowedOn w0 op1 11 := by
  unfold WindowedOn
  rw [op1_swaps]
  decide +kernel

/-- `C03W.step_nondecr` applies: the invariant is preserved and the share value does not decrease -/
theorem op1_nondecr {w' : World} {out : Out} (h : exec name0 w0 op1 = .ok (w', out)) :
    PairInv w' 11 (.native 0) (.token 8) 12 ∧
    NonDecr (viewOf w0 11 (.native 0) (.token 8) 12) (viewOf w' 11 (.native 0) (.token 8) 12) :=
  have hs := Halo.Props.C03W.step_nondecr pairInv_11 validOp_op1 h
  ⟨hs.1, hs.2.resolve_right op1_not_windowed⟩

def swapOut? : M (World × Out) → Option SwapOut
  | .ok (_, .swap o) => some o
  | _ => none

theorem exists_of_swapOut {x : M (World × Out)} {o : SwapOut} (h : swapOut? x = some o) :
    ∃ w', x = .ok (w', .swap o) := by
  match x, h with
  | .ok (w', .swap o'), h => exact ⟨w', by cases h; rfl⟩

/-- what the swap reports -/
def out1 : SwapOut := { offer := 1000, ret := 1993, spread := 2, comm := 5, ask := .token 8 }

theorem op1_out : swapOut? (exec name0 w0 op1) = some out1 := by decide +kernel

/-- `C02.swap_native_effect` instantiated on `op1`, with the `attach` step resolved by
`C02.attach_single_effect`: exactly 1000 of native 0 moves from user 1 to the pair, exactly the reported
1993 of token 8 moves from the pair to user 1, LP supplies are untouched, bystanders are untouched -/
theorem op1_effect : ∃ w', exec name0 w0 op1 = .ok (w', .swap out1) ∧
    bal w' (.native 0) 11 = 1001000 ∧ bal w' (.native 0) 1 = 9999000 ∧
    bal w' (.token 8) 11 = 1998007 ∧ bal w' (.token 8) 1 = 5001993 ∧
    supply w' 12 = 1414213 ∧ supply w' 8 = 12000000 ∧
    (∀ a z, z ≠ 11 → z ≠ 1 → bal w' a z = bal w0 a z) := by
  obtain ⟨w', h⟩ := exists_of_swapOut op1_out
  refine ⟨w', h, ?_⟩
  have h' : pairExec w0 1 11 [(0, 1000)] (.swap (.native 0) 1000 none none none) = .ok (w', .swap out1) := h
  obtain ⟨P, wa, _, hatt, _, _, _, _, _, _, hmove, hrest, hsup⟩ := Halo.Props.C02.swap_native_effect h'
  obtain ⟨_, _, hp, hs, hoth⟩ := Halo.Props.C02.attach_single_effect (by decide) hatt
  have hm := hmove (by decide)
  have hsa := supply_attach hatt
  have e1 : bal wa (.token 8) 11 = 2000000 := hoth _ _ (Or.inl (by decide))
  have e2 : bal wa (.token 8) 1 = 5000000 := hoth _ _ (Or.inl (by decide))
  refine ⟨?_, ?_, ?_, ?_, ?_, ?_, ?_⟩
  · rw [hrest _ _ (Or.inl (by decide)), hp]; rfl
  · rw [hrest _ _ (Or.inl (by decide)), hs]; rfl
  · have hm1 : bal w' (.token 8) 11 = bal wa (.token 8) 11 - 1993 := hm.1
    rw [hm1, e1]
  · have hm2 : bal w' (.token 8) 1 = bal wa (.token 8) 1 + 1993 := hm.2
    rw [hm2, e2]
  · rw [hsup, hsa]; rfl
  · rw [hsup, hsa]; rfl
  · intro a z hz1 hz2
    rw [hrest a z (Or.inr ⟨hz1, hz2⟩), hoth a z (Or.inr ⟨hz1, hz2⟩)]

/-- the concrete content of `op1_nondecr`: `1000000·2000000/S² ≤ 1001000·1998007/S²` -/
theorem op1_nondecr_concrete {w' : World} {out : Out} (h : exec name0 w0 op1 = .ok (w', out)) :
    (1000000 : Nat) * 2000000 * (supply w' 12 * supply w' 12) ≤
      bal w' (.native 0) 11 * bal w' (.token 8) 11 * (1414213 * 1414213) :=
  ((op1_nondecr h).2 (by decide)).2

/-! Withdrawing 1000 LP from pair 11 by user 2 -/

namespace Withdraw

theorem hP : w0.pair 11 = some pair11 := rfl
theorem hhp : (2 : Nat) ≠ 11 := by decide
theorem hne : pair11.a0 ≠ pair11.a1 := by decide
theorem hl0 : pair11.a0 ≠ .token pair11.lp := by decide
theorem hl1 : pair11.a1 ≠ .token pair11.lp := by decide
theorem hlp : (w0.tok pair11.lp).isSome := rfl
theorem ht0 : ∀ t, pair11.a0 = .token t → (w0.tok t).isSome := by intro t h; cases h
theorem ht1 : ∀ t, pair11.a1 = .token t → (w0.tok t).isSome := by intro t h; cases h; rfl
theorem ha1 : 1 ≤ 1000 := by decide
theorem hab : 1000 ≤ bal w0 (.token pair11.lp) 2 := by decide
/-- also a consequence of `TokSumOK` (`C20.tokSumOK_holder`) -/
theorem haS : 1000 ≤ supply w0 pair11.lp :=
  Nat.le_trans hab (Halo.Props.C20.tokSumOK_holder tokSumOK_lp12)
theorem hr0 : bal w0 pair11.a0 11 < W := by decide +kernel
theorem hr1 : bal w0 pair11.a1 11 < W := by decide +kernel
theorem hSW : supply w0 pair11.lp < W := by decide +kernel
theorem hent0 : (bal w0 pair11.a0 11 + 2 * E) * supply w0 pair11.lp ≤ bal w0 pair11.a0 11 * 1000 * E := by
  decide +kernel
theorem hent1 : (bal w0 pair11.a1 11 + 2 * E) * supply w0 pair11.lp ≤ bal w0 pair11.a1 11 * 1000 * E := by
  decide +kernel

/-- `C20.withdraw_live` applies -/
theorem send_ok : ∃ w' x0 x1, tokSendPair w0 12 2 11 1000 .withdraw = .ok (w', .withdraw x0 x1) ∧ 2 ≤ x0 ∧ 2 ≤ x1 :=
  Halo.Props.C20.withdraw_live hP hhp rfl hne hl0 hl1 hlp ht0 ht1 ha1 hab haS hr0 hr1 hSW hent0 hent1

def opW : Op := .tokSend 12 2 11 1000 .withdraw

theorem exec_eq : exec name0 w0 opW = tokSendPair w0 12 2 11 1000 .withdraw := rfl

/-- hence the transaction succeeds -/
theorem tx_ok : ∃ w' x0 x1, exec name0 w0 opW = .ok (w', .withdraw x0 x1) ∧ 2 ≤ x0 ∧ 2 ≤ x1 := by
  rw [exec_eq]; exact send_ok

theorem validOp_opW : ValidOp w0 opW where
  actor := isActor_2
  fresh := freshOK_of _ _ (by intro _ _ _ e; cases e)
  coins := by decide

theorem opW_not_windowed : ¬ WindowedOn w0 opW 11 := by
  unfold WindowedOn; decide +kernel

/-- `C03W.step_nondecr` applies to the withdrawal as well -/
theorem opW_nondecr {w' : World} {out : Out} (h : exec name0 w0 opW = .ok (w', out)) :
    PairInv w' 11 (.native 0) (.token 8) 12 ∧
    NonDecr (viewOf w0 11 (.native 0) (.token 8) 12) (viewOf w' 11 (.native 0) (.token 8) 12) :=
  have hs := Halo.Props.C03W.step_nondecr pairInv_11 validOp_opW h
  ⟨hs.1, hs.2.resolve_right opW_not_windowed⟩

end Withdraw

/-! A two-step history: the swap, then the withdrawal (`C03W.history_nondecr` applies) -/

def hist : List Op := [op1, Withdraw.opW]

theorem validRun_hist : ValidRun name0 w0 hist := by
  refine ⟨validOp_op1, ⟨?_, freshOK_of _ _ (by intro _ _ _ e; cases e), by decide⟩, trivial⟩
  unfold IsActor; decide +kernel

theorem noWindow_hist : NoWindowRun name0 11 w0 hist := by
  refine ⟨op1_not_windowed, ?_, trivial⟩
  unfold WindowedOn; decide +kernel

theorem hist_nondecr :
    PairInv (run name0 w0 hist) 11 (.native 0) (.token 8) 12 ∧
    NonDecr (viewOf w0 11 (.native 0) (.token 8) 12) (viewOf (run name0 w0 hist) 11 (.native 0) (.token 8) 12) :=
  Halo.Props.C03W.history_nondecr hist w0 pairInv_11 validRun_hist noWindow_hist

/-- the history really changes the pair: both steps succeed (reserves and supply after it) -/
theorem hist_view : viewOf (run name0 w0 hist) 11 (.native 0) (.token 8) 12 = (1000293, 1996595, 1413213) := by
  decide +kernel

/-! A history in which third parties spend allowances (`TransferFrom` / `SendFrom` / `BurnFrom` /
`DecreaseAllowance` are operations of the universe: the history theorems quantify over them) -/

namespace Spend

/-- user 1 lets user 2 spend its token 8; user 2 swaps 5000 of them on pair 11 (and keeps the proceeds), moves 1000 to
user 3 and burns 500; user 2 lets user 3 spend its LP tokens, and user 3 withdraws 1000 of them (and is paid the
refunds); finally user 1 revokes what is left of the allowance -/
def ops : List Op :=
  [.tokIncAllow 8 1 2 10000,
   .tokSendFrom 8 2 1 11 5000 (.swap (.token 8) 5000 none none none),
   .tokTransferFrom 8 2 1 3 1000,
   .tokBurnFrom 8 2 1 500,
   .tokIncAllow 12 2 3 1000,
   .tokSendFrom 12 3 2 11 1000 .withdraw,
   .tokDecAllow 8 1 2 10000]

theorem validRun_ops : ValidRun name0 w0 ops := by
  refine ⟨⟨?_, freshOK_of _ _ (by intro _ _ _ e; cases e), by decide⟩,
    ⟨?_, freshOK_of _ _ (by intro _ _ _ e; cases e), by decide⟩,
    ⟨?_, freshOK_of _ _ (by intro _ _ _ e; cases e), by decide⟩,
    ⟨?_, freshOK_of _ _ (by intro _ _ _ e; cases e), by decide⟩,
    ⟨?_, freshOK_of _ _ (by intro _ _ _ e; cases e), by decide⟩,
    ⟨?_, freshOK_of _ _ (by intro _ _ _ e; cases e), by decide⟩,
    ⟨?_, freshOK_of _ _ (by intro _ _ _ e; cases e), by decide⟩, trivial⟩ <;>
  (unfold IsActor; decide +kernel)

theorem noWindow_ops : NoWindowRun name0 11 w0 ops := by
  refine ⟨?_, ?_, ?_, ?_, ?_, ?_, ?_, trivial⟩ <;> (unfold WindowedOn; decide +kernel)

/-- `C03W.history_nondecr` applies: the invariant (including "the pair and the LP address have granted no allowance")
holds at the end and the share value has not decreased -/
theorem ops_nondecr :
    PairInv (run name0 w0 ops) 11 (.native 0) (.token 8) 12 ∧
    NonDecr (viewOf w0 11 (.native 0) (.token 8) 12) (viewOf (run name0 w0 ops) 11 (.native 0) (.token 8) 12) :=
  Halo.Props.C03W.history_nondecr ops w0 pairInv_11 validRun_ops noWindow_ops

/-- every step of the history succeeds: the owner's tokens are spent (5000 + 1000 + 500), the SPENDERS are paid
(user 2 the swap's return, user 3 the refunds); the revoked allowance entry is gone at the end, the used-up one remains
with 0 -/
theorem ops_effect :
    bal (run name0 w0 ops) (.token 8) 1 = 5000000 - 6500 ∧
    bal (run name0 w0 ops) (.token 8) 3 = 1000000 + 1000 + 1417 ∧
    bal (run name0 w0 ops) (.native 0) 3 = 10000000 + 705 ∧
    bal (run name0 w0 ops) (.native 0) 2 = 10000000 + 2486 ∧
    bal (run name0 w0 ops) (.token 12) 2 = 1000000 - 1000 ∧
    supply (run name0 w0 ops) 8 = 12000000 - 500 ∧
    supply (run name0 w0 ops) 12 = 1414213 - 1000 ∧
    Halo.C07.allowOf (run name0 w0 ops) 8 1 2 = none ∧
    Halo.C07.allowOf (run name0 w0 ops) 12 2 3 = some 0 := by
  decide +kernel

end Spend

/-! A two-hop route through both pairs -/

def route : List (Asset × Asset) := [(.native 0, .token 8), (.token 8, .native 1)]

/-- a statement about every hop of the route is one about its two hops -/
theorem forall_route {p : Asset × Asset → Prop} (h0 : p (.native 0, .token 8)) (h1 : p (.token 8, .native 1)) :
    ∀ h ∈ route, p h :=
  List.forall_mem_cons.2 ⟨h0, List.forall_mem_singleton.2 h1⟩

theorem routeOK_w1 : Halo.C13W.RouteOK w1 2 route where
  resolves := forall_route
    ⟨rec11, pair11, rfl, rfl, Or.inl ⟨rfl, rfl⟩, by decide, by decide, by decide⟩
    ⟨rec13, pair13, rfl, rfl, Or.inl ⟨rfl, rfl⟩, by decide, by decide, by decide⟩
  distinctPairs := by decide +kernel
  routerEmpty := forall_route
    (fun b hb hne => by
      rcases hb with rfl | rfl
      · exact absurd rfl hne
      · rfl)
    (fun b hb _ => by rcases hb with rfl | rfl <;> rfl)
  rcvNotRouter := by decide
  routerNoPair := rfl

theorem route_ok : ∃ w', routerHops w1 2 route = .ok w' := exists_of_isOk (by decide +kernel)

theorem route_quote : routerSimulateTop w1 5000 route = .ok 19589 := by decide +kernel

/-- `C13W.route_passthrough` instantiated on the actual result: user 2 receives exactly the quoted
19589 of native 1, the router ends with none of the route's assets, and user 2's balance of the
intermediate token 8 is unchanged -/
theorem route_effect : ∃ w', routerHops w1 2 route = .ok w' ∧
    bal w' (.native 1) 2 = 10019589 ∧
    bal w' (.native 0) 7 = 0 ∧ bal w' (.token 8) 7 = 0 ∧ bal w' (.native 1) 7 = 0 ∧
    bal w' (.token 8) 2 = 3000000 ∧ bal w' (.native 0) 2 = 10000000 := by
  obtain ⟨w', h⟩ := route_ok
  refine ⟨w', h, ?_⟩
  obtain ⟨target, n, htgt, hsim, hrcv, hrouter, hkeep, hinter⟩ :=
    Halo.Props.C13W.route_passthrough routeOK_w1 (by decide) h
  cases Option.some.inj htgt
  cases Except.ok.inj (route_quote.symm.trans hsim)
  refine ⟨?_, ?_, ?_, ?_, ?_, ?_⟩
  · exact hrcv (.native 0) rfl (by decide)
  · exact hrouter (.native 0, .token 8) List.mem_cons_self _ (Or.inl rfl) (by decide)
  · exact hrouter (.native 0, .token 8) List.mem_cons_self _ (Or.inr rfl) (by decide)
  · exact hkeep
  · exact hinter _ (by decide)
  · exact hinter _ (by decide)

end Halo.Props.Examples
