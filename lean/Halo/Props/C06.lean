/-
C06 — swap output is the constant-product price less commission, within one unit.
-/
import Halo.Proofs.C01

namespace Halo.Props.C06

/-- commission = ⌊c·gross⌋, return + commission + spread = ⌊a·y/x⌋, and
`g(1−γ) − 1 < n < g(1−γ) + 1` with `g = y·a/(x+a)`, `γ = c/10^18` (cross-multiplied in `Spec.c06`) -/
theorem computeSwap_spec {x y a c n s k : Nat}
    (h : computeSwap x y a c = .ok (n, s, k)) (hc : c ≤ E) :
    Spec.c06 x y a c n s k = true :=
  Halo.C01.c06_of_ok h hc

/-- the output never decreases when the offer grows -/
theorem computeSwap_mono {x y a a' c n s k n' s' k' : Nat}
    (h : computeSwap x y a c = .ok (n, s, k)) (h' : computeSwap x y a' c = .ok (n', s', k'))
    (hc : c ≤ E) (ha : a ≤ a') : n ≤ n' := by
  rw [(C01.computeSwap_ok.mp h).net, (C01.computeSwap_ok.mp h').net]
  exact C01.net_mono hc (C01.G_mono_offer (C01.pos_of_ok h) ha)

/-- the output never decreases when the ask reserve is deeper (same offer reserve, offer and rate) -/
theorem computeSwap_mono_ask {x y y' a c n s k n' s' k' : Nat}
    (h : computeSwap x y a c = .ok (n, s, k)) (h' : computeSwap x y' a c = .ok (n', s', k'))
    (hc : c ≤ E) (hy : y ≤ y') : n ≤ n' := by
  rw [(C01.computeSwap_ok.mp h).net, (C01.computeSwap_ok.mp h').net]
  exact C01.net_mono hc (C01.G_mono_ask (C01.pos_of_ok h) hy)

/-- non-vacuity of `computeSwap_mono_ask`: a deeper ask reserve, a strictly larger output -/
example : computeSwap 1000000 2000000 1000 3000000000000000 = .ok (1993, 2, 5) ∧
    computeSwap 1000000 3000000 1000 3000000000000000 = .ok (2989, 3, 8) := by decide

/-- the three results always fit the 128-bit return type and the commission never exceeds the gross -/
theorem computeSwap_range {x y a c n s k : Nat}
    (h : computeSwap x y a c = .ok (n, s, k)) : n < W ∧ s < W ∧ k < W := by
  have H := C01.computeSwap_ok.mp h
  exact ⟨H.net_lt, H.spread_lt, H.comm_lt⟩

/-- success is characterised exactly: `compute_swap` aborts only when the offer reserve is zero, an
intermediate product leaves 256 bits, the ideal output is below the gross output (only possible in
the window), the commission exceeds the gross output (only possible for rates above 1), or a
result leaves 128 bits -/
theorem computeSwap_ok_iff {x y a c : Nat} (hx : x < W) (hy : y < W) (ha : a < W) :
    (∃ r, computeSwap x y a c = .ok r) ↔
      x ≠ 0 ∧ x * y * E < U ∧ y * a * E < U ∧
      (let G := (y * a * E + x * y * E % (x + a)) / ((x + a) * E)
       G ≤ y * a / x ∧ G * c < U ∧ G * c / E ≤ G ∧ y * a / x - G < W ∧ G - G * c / E < W ∧ G * c / E < W) :=
  Halo.C01.computeSwap_ok_iff hx hy ha

example : computeSwap 1000000 2000000 1000 3000000000000000 = .ok (1993, 2, 5) := by decide

end Halo.Props.C06
