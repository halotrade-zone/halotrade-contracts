/-
C03 / C20 from genesis — the invariant `PairInv` on which the history theorems rest is *established* by the
factory's `CreatePair` and preserved by every operation, so "every reachable pair state" means exactly:
every state reached by any history of external actors' operations after the pair was created.

`NewAddrs` is the environment's address allocation: the two addresses handed to the new pair contract and
its LP token are distinct, unused, and not the router (the chain allocates instantiation addresses freshly;
`FreshOK` inside `ValidOp` carries the rest).
-/
import Halo.Proofs.C03G

namespace Halo.Props.C03G

/-- a successful `CreatePair` establishes the invariant for the new pair (with zero LP supply) -/
theorem created_pair_inv {name : Asset → String} {w w' : World} {s : Nat} {f : List (Nat × Nat)}
    {a0 a1 : Asset} {req : Requirements} {c ld : Option Nat} {np nl : Nat} {out : Out}
    (hv : ValidOp w (.factory s f (.createPair a0 a1 req c ld np nl))) (hn : NewAddrs w np nl)
    (h : exec name w (.factory s f (.createPair a0 a1 req c ld np nl)) = .ok (w', out)) :
    PairInv w' np a0 a1 nl ∧ supply w' nl = 0 :=
  Halo.C03G.created_pair_inv hv hn h

/-- the invariant is preserved along every history of external actors' operations (in-window swaps included) -/
theorem pairInv_run {name : Asset → String} {p : Nat} {a0 a1 : Asset} {lp : Nat} (ops : List Op) (w : World)
    (hinv : PairInv w p a0 a1 lp) (hv : ValidRun name w ops) :
    PairInv (run name w ops) p a0 a1 lp :=
  Halo.C03G.pairInv_run ops w hinv hv

/-- **C03_partial from genesis**: from the creation of a pair on, along any history none of whose swaps on the
pair is in the window, the share value never decreases between any two points of the history -/
theorem history_from_creation {name : Asset → String} {w w1 : World} {s : Nat} {f : List (Nat × Nat)}
    {a0 a1 : Asset} {req : Requirements} {c ld : Option Nat} {np nl : Nat} {out : Out}
    (hv : ValidOp w (.factory s f (.createPair a0 a1 req c ld np nl))) (hn : NewAddrs w np nl)
    (h : exec name w (.factory s f (.createPair a0 a1 req c ld np nl)) = .ok (w1, out))
    (ops₁ ops₂ : List Op) (hv₁ : ValidRun name w1 ops₁) (hv₂ : ValidRun name (run name w1 ops₁) ops₂)
    (hnw : NoWindowRun name np (run name w1 ops₁) ops₂) :
    NonDecr (viewOf (run name w1 ops₁) np a0 a1 nl) (viewOf (run name (run name w1 ops₁) ops₂) np a0 a1 nl) :=
  Halo.C03G.history_from_creation hv hn h ops₁ ops₂ hv₁ hv₂ hnw

end Halo.Props.C03G
