/-
C10 at system level (call sites): `Halo/Props/C10.lean` proves what `assert_max_spread` means as a
function.  Here: every successful swap — inside the handler, and as a whole transaction through either
entry point — *passed* that function on exactly the amounts it reports, with the pair's own decimals in
(offer, ask) order; and a swap (transaction) that fails with the typed guard error was rejected by that
very call, on the amounts the swap would have reported.

`w0` is the world at handler entry (attached funds credited, resp. the cw20 amount transferred): the
reported amounts are `compute_swap` of the pair's reserves there, net of the credited offer.
-/
import Halo.Proofs.CallSites

namespace Halo.Props.C10W

/-- (a) a successful `swap` passed `assert_max_spread belief max_spread offer_amount return_amount
spread_amount offer_decimals ask_decimals` on its reported amounts -/
theorem swap_passed_guard {w0 w' : World} {p : Nat} {P : PairSt} {funds : List (Nat × Nat)} {trader : Nat}
    {offer : Asset} {amt : Nat} {belief ms toAddr : Option Nat} {o : SwapOut}
    (h : pairSwap w0 p P funds trader offer amt belief ms toAddr = .ok (w', o)) :
    (offer = P.a0 ∨ offer = P.a1) ∧ amt ≤ bal w0 offer p ∧
    o.offer = amt ∧ o.ask = (if offer = P.a0 then P.a1 else P.a0) ∧
    computeSwap (bal w0 offer p - amt) (bal w0 (if offer = P.a0 then P.a1 else P.a0) p) amt P.comm
      = .ok (o.ret, o.spread, o.comm) ∧
    assertMaxSpread belief ms amt o.ret o.spread
      (if offer = P.a0 then P.d0 else P.d1) (if offer = P.a0 then P.d1 else P.d0) = .ok () :=
  Halo.CallSites.swap_passed_guard h

/-- hence, with `Halo.Props.C10.belief_sound`: a successful swap with a belief price satisfies the C10
bound on its reported amounts (normalised to common decimals) -/
theorem swap_honours_belief {w0 w' : World} {p : Nat} {P : PairSt} {funds : List (Nat × Nat)} {trader : Nat}
    {offer : Asset} {amt pb m : Nat} {toAddr : Option Nat} {o : SwapOut}
    (h : pairSwap w0 p P funds trader offer amt (some pb) (some m) toAddr = .ok (w', o)) :
    ∃ o' r' s', normSpread amt o.ret o.spread
        (if offer = P.a0 then P.d0 else P.d1) (if offer = P.a0 then P.d1 else P.d0) = .ok (o', r', s') ∧
      Spec.c10BeliefSound o' r' pb m = true :=
  Halo.CallSites.swap_honours_belief h

/-- and with `Halo.Props.C10.spread_sound`: without a belief price, the spread bound -/
theorem swap_honours_spread {w0 w' : World} {p : Nat} {P : PairSt} {funds : List (Nat × Nat)} {trader : Nat}
    {offer : Asset} {amt m : Nat} {toAddr : Option Nat} {o : SwapOut}
    (h : pairSwap w0 p P funds trader offer amt none (some m) toAddr = .ok (w', o)) :
    ∃ o' r' s', normSpread amt o.ret o.spread
        (if offer = P.a0 then P.d0 else P.d1) (if offer = P.a0 then P.d1 else P.d0) = .ok (o', r', s') ∧
      Spec.c10SpreadSound r' s' m = true :=
  Halo.CallSites.swap_honours_spread h

/-- (b) the only source of a `.guard` error in `swap` is its call of `assert_max_spread`, made after
`compute_swap` succeeded; `Halo.Props.C10.belief_complete` / `spread_complete` then say why -/
theorem swap_guard_rejection {w0 : World} {p : Nat} {P : PairSt} {funds : List (Nat × Nat)} {trader : Nat}
    {offer : Asset} {amt : Nat} {belief ms toAddr : Option Nat}
    (h : pairSwap w0 p P funds trader offer amt belief ms toAddr = .error .guard) :
    (offer = P.a0 ∨ offer = P.a1) ∧ amt ≤ bal w0 offer p ∧
    ∃ n s k,
      computeSwap (bal w0 offer p - amt) (bal w0 (if offer = P.a0 then P.a1 else P.a0) p) amt P.comm
        = .ok (n, s, k) ∧
      assertMaxSpread belief ms amt n s
        (if offer = P.a0 then P.d0 else P.d1) (if offer = P.a0 then P.d1 else P.d0) = .error .guard :=
  Halo.CallSites.swap_guard_rejection h

/-- (c) the direct entry point, success -/
theorem exec_swap_passed_guard {w w' : World} {s p : Nat} {funds : List (Nat × Nat)} {offer : Asset} {amt : Nat}
    {belief ms toAddr : Option Nat} {out : Out}
    (h : pairExec w s p funds (.swap offer amt belief ms toAddr) = .ok (w', out)) :
    ∃ P w0 o, w.pair p = some P ∧ attach w s p funds = .ok w0 ∧ out = .swap o ∧
      (offer = P.a0 ∨ offer = P.a1) ∧ amt ≤ bal w0 offer p ∧
      o.offer = amt ∧ o.ask = (if offer = P.a0 then P.a1 else P.a0) ∧
      computeSwap (bal w0 offer p - amt) (bal w0 (if offer = P.a0 then P.a1 else P.a0) p) amt P.comm
        = .ok (o.ret, o.spread, o.comm) ∧
      assertMaxSpread belief ms amt o.ret o.spread
        (if offer = P.a0 then P.d0 else P.d1) (if offer = P.a0 then P.d1 else P.d0) = .ok () := by
  obtain ⟨P, w0, o, hP, h0, hs, rfl⟩ := C02.pairExec_swap_ok h
  exact ⟨P, w0, o, hP, h0, rfl, CallSites.swap_passed_guard hs⟩

/-- the direct entry point, guard rejection: neither the funds transfer nor anything else in the
transaction produces the guard error -/
theorem exec_swap_guard_rejection {w : World} {s p : Nat} {funds : List (Nat × Nat)} {offer : Asset} {amt : Nat}
    {belief ms toAddr : Option Nat}
    (h : pairExec w s p funds (.swap offer amt belief ms toAddr) = .error .guard) :
    ∃ P w0, w.pair p = some P ∧ attach w s p funds = .ok w0 ∧
      (offer = P.a0 ∨ offer = P.a1) ∧ amt ≤ bal w0 offer p ∧
      ∃ n s' k,
        computeSwap (bal w0 offer p - amt) (bal w0 (if offer = P.a0 then P.a1 else P.a0) p) amt P.comm
          = .ok (n, s', k) ∧
        assertMaxSpread belief ms amt n s'
          (if offer = P.a0 then P.d0 else P.d1) (if offer = P.a0 then P.d1 else P.d0) = .error .guard := by
  obtain ⟨P, w0, hP, h0, hs⟩ := CallSites.pairExec_guard h
  exact ⟨P, w0, hP, h0, CallSites.swap_guard_rejection hs⟩

/-- the cw20 `Send` hook entry point, success -/
theorem hook_swap_passed_guard {w w' : World} {t u p amt a : Nat} {offer : Asset}
    {belief ms toAddr : Option Nat} {out : Out}
    (h : tokSendPair w t u p amt (.swap offer a belief ms toAddr) = .ok (w', out)) :
    ∃ P w0 o, w.pair p = some P ∧ tokTransfer w t u p amt = .ok w0 ∧ out = .swap o ∧
      offer = .token t ∧ a = amt ∧
      (offer = P.a0 ∨ offer = P.a1) ∧ amt ≤ bal w0 offer p ∧
      o.offer = amt ∧ o.ask = (if offer = P.a0 then P.a1 else P.a0) ∧
      computeSwap (bal w0 offer p - amt) (bal w0 (if offer = P.a0 then P.a1 else P.a0) p) amt P.comm
        = .ok (o.ret, o.spread, o.comm) ∧
      assertMaxSpread belief ms amt o.ret o.spread
        (if offer = P.a0 then P.d0 else P.d1) (if offer = P.a0 then P.d1 else P.d0) = .ok () := by
  obtain ⟨P, w0, o, hP, htr, hsw, ho, rfl, rfl, -⟩ := C02.tokSendPair_swap_ok h
  exact ⟨P, w0, o, hP, htr, ho, rfl, rfl, CallSites.swap_passed_guard hsw⟩

/-- the hook entry point, guard rejection -/
theorem hook_swap_guard_rejection {w : World} {t u p amt a : Nat} {offer : Asset}
    {belief ms toAddr : Option Nat}
    (h : tokSendPair w t u p amt (.swap offer a belief ms toAddr) = .error .guard) :
    ∃ P w0, w.pair p = some P ∧ tokTransfer w t u p amt = .ok w0 ∧ offer = .token t ∧ a = amt ∧
      (offer = P.a0 ∨ offer = P.a1) ∧ amt ≤ bal w0 offer p ∧
      ∃ n s' k,
        computeSwap (bal w0 offer p - amt) (bal w0 (if offer = P.a0 then P.a1 else P.a0) p) amt P.comm
          = .ok (n, s', k) ∧
        assertMaxSpread belief ms amt n s'
          (if offer = P.a0 then P.d0 else P.d1) (if offer = P.a0 then P.d1 else P.d0) = .error .guard := by
  obtain ⟨w0, htr, h⟩ := CallSites.bind_guard h (CallSites.ng_tokTransfer _ _ _ _ _)
  obtain ⟨P, hP, rfl, _, hof, hsw⟩ := CallSites.pairReceive_swap_guard h
  exact ⟨P, w0, (tokTransfer_paid htr).kept.pair ▸ hP, htr, hof, rfl, CallSites.swap_guard_rejection hsw⟩

end Halo.Props.C10W
