/-
C16 — factory registry: one pair per unordered asset set (pure part: the registry key).
The registry invariant over all factory histories and its consequences are in Halo/Props/C16W.lean.
-/
import Halo.Proofs.C19

namespace Halo.Props.C16

/-- the key does not depend on the order of the two assets -/
theorem pairKey_comm (a b : Bytes) : pairKey a b = pairKey b a := Halo.C19.pairKey_comm a b

/-- two different unordered identifier sets never share a key (identifiers shorter than 2^32 bytes) -/
theorem pairKey_inj {a b c d : Bytes} (ha : a.length < 2 ^ 32) (hb : b.length < 2 ^ 32)
    (hc : c.length < 2 ^ 32) (hd : d.length < 2 ^ 32) (h : pairKey a b = pairKey c d) :
    (a = c ∧ b = d) ∨ (a = d ∧ b = c) := Halo.C19.pairKey_inj ha hb hc hd h

/-- the key format of the pinned commit was not injective: {uaura, uusd} and {uaurau, usd} collide (defect D3) -/
theorem pairKeyOld_collision :
    pairKeyOld [117, 97, 117, 114, 97] [117, 117, 115, 100] = pairKeyOld [117, 97, 117, 114, 97, 117] [117, 115, 100] ∧
    pairKey [117, 97, 117, 114, 97] [117, 117, 115, 100] ≠ pairKey [117, 97, 117, 114, 97, 117] [117, 115, 100] := by decide

/-- lookup after insertion: the inserted key resolves to the inserted record, every other key is unaffected -/
theorem regLookup_insert_self {α} (k : Bytes) (v : α) (reg : List (Bytes × α))
    (hs : reg.Pairwise (fun e f => e.1 < f.1)) : regLookup k (regInsert k v reg) = some v :=
  Halo.C19.regLookup_insert_self k v reg hs
theorem regLookup_insert_other {α} (k k' : Bytes) (v : α) (reg : List (Bytes × α)) (hne : k' ≠ k) :
    regLookup k' (regInsert k v reg) = regLookup k' reg :=
  Halo.C19.regLookup_insert_other k k' v reg hne

end Halo.Props.C16
