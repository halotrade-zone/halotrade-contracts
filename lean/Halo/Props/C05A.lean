/-
C05, the movement of the deposits.  `Halo/Props/C05W.lean` describes a provision from the world `w0` at
handler entry (native deposits already credited, and only for a pair with positive supply does it say how
the cw20 deposits move).  Here, for the whole transaction and for both the positive-supply and the
empty-pool case: each pair asset — native (through the attached funds) or cw20 (through `TransferFrom`
on the caller's allowance) — moves from the caller to the pair in exactly the declared amount, and
nobody else's balance of it changes.

Hypotheses: the caller is not the pair, the funds carry each denom at most once (DESIGN §6 C09), the pair's
assets are distinct and neither is its own LP token (C16).
-/
import Halo.Proofs.C05A

namespace Halo.Props.C05A

/-- inside the handler (`w0` = handler entry): a native pair asset was declared exactly as attached and
does not move any more; a cw20 pair asset is pulled from the caller in exactly the declared amount -/
theorem provide_moves {w0 w' : World} {p : Nat} {P : PairSt} {s : Nat} {funds : List (Nat × Nat)}
    {as0 as1 : Asset} {am0 am1 : Nat} {tol rcv : Option Nat} {m : Nat}
    (hsp : s ≠ p) (hne : P.a0 ≠ P.a1) (hl0 : P.a0 ≠ .token P.lp) (hl1 : P.a1 ≠ .token P.lp)
    (h : pairProvide w0 p P s funds as0 am0 as1 am1 tol rcv = .ok (w', m)) :
    ∃ d0 d1,
      ((as0 = P.a0 ∧ d0 = am0) ∨ (as0 ≠ P.a0 ∧ as1 = P.a0 ∧ d0 = am1)) ∧
      ((as0 = P.a1 ∧ d1 = am0) ∨ (as0 ≠ P.a1 ∧ as1 = P.a1 ∧ d1 = am1)) ∧
      (∀ d, P.a0 = .native d → Spec.c09 d d0 funds = true ∧ ∀ z, bal w' P.a0 z = bal w0 P.a0 z) ∧
      (∀ d, P.a1 = .native d → Spec.c09 d d1 funds = true ∧ ∀ z, bal w' P.a1 z = bal w0 P.a1 z) ∧
      (∀ t, P.a0 = .token t →
        bal w' P.a0 p = bal w0 P.a0 p + d0 ∧ bal w' P.a0 s + d0 = bal w0 P.a0 s ∧
        ∀ z, z ≠ s → z ≠ p → bal w' P.a0 z = bal w0 P.a0 z) ∧
      (∀ t, P.a1 = .token t →
        bal w' P.a1 p = bal w0 P.a1 p + d1 ∧ bal w' P.a1 s + d1 = bal w0 P.a1 s ∧
        ∀ z, z ≠ s → z ≠ p → bal w' P.a1 z = bal w0 P.a1 z) :=
  Halo.CallSites.provide_moves hsp hne hl0 hl1 h

/-- the whole transaction, uniformly in the kind of each asset and in whether the pool was empty:
`d0`, `d1` are the declared deposits in pair order; the pair's balance of each pair asset rises by exactly
the deposit, the caller's falls by exactly that, nobody else's changes -/
theorem exec_provide_moves {w w' : World} {s p : Nat} {funds : List (Nat × Nat)} {P : PairSt}
    {as0 as1 : Asset} {am0 am1 : Nat} {tol rcv : Option Nat} {out : Out}
    (hsp : s ≠ p) (hnd : (funds.map (·.1)).Nodup) (hP : w.pair p = some P)
    (hne : P.a0 ≠ P.a1) (hl0 : P.a0 ≠ .token P.lp) (hl1 : P.a1 ≠ .token P.lp)
    (h : pairExec w s p funds (.provide as0 am0 as1 am1 tol rcv) = .ok (w', out)) :
    ∃ w0 d0 d1 m, attach w s p funds = .ok w0 ∧
      pairProvide w0 p P s funds as0 am0 as1 am1 tol rcv = .ok (w', m) ∧ out = .provide m ∧
      ((as0 = P.a0 ∧ d0 = am0) ∨ (as0 ≠ P.a0 ∧ as1 = P.a0 ∧ d0 = am1)) ∧
      ((as0 = P.a1 ∧ d1 = am0) ∨ (as0 ≠ P.a1 ∧ as1 = P.a1 ∧ d1 = am1)) ∧
      (bal w' P.a0 p = bal w P.a0 p + d0 ∧ bal w' P.a0 s + d0 = bal w P.a0 s ∧
        ∀ z, z ≠ s → z ≠ p → bal w' P.a0 z = bal w P.a0 z) ∧
      (bal w' P.a1 p = bal w P.a1 p + d1 ∧ bal w' P.a1 s + d1 = bal w P.a1 s ∧
        ∀ z, z ≠ s → z ≠ p → bal w' P.a1 z = bal w P.a1 z) :=
  Halo.CallSites.exec_provide_moves hsp hnd hP hne hl0 hl1 h

end Halo.Props.C05A
