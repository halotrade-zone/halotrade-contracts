/-
C07 — operations never touch third-party balances and conserve token totals.
`Touched w op z` (Halo/Inv.lean): the actor, the addressed contract, the designated receiver, for a route
the pair contracts and the router, the LP token address of the addressed pair, and — for the cw20 messages by which a
spender moves an owner's tokens with its allowance (`TransferFrom`, `SendFrom`, `BurnFrom`) — that owner.
-/
import Halo.Proofs.C07
import Halo.Proofs.Flows
import Halo.Proofs.Allow
import Halo.Proofs.Runs

namespace Halo.Props.C07

/-- frame: every other account's balance of every asset is unchanged -/
theorem step_frame {name : Asset → String} {w w' : World} {op : Op} {out : Out}
    (h : exec name w op = .ok (w', out)) (hf : FreshOK w op) (a : Asset) (z : Nat) (hz : ¬ Touched w op z) :
    bal w' a z = bal w a z :=
  Halo.C07.step_frame h hf a z hz

/-- … and a failed operation changes nothing at all -/
theorem failed_step_frame {name : Asset → String} {w : World} {op : Op} {e : Err}
    (h : exec name w op = .error e) : step name w op = w :=
  step_of_error h

/-- "the designated receiver's balances can only increase" — in fact every account other than the actor, the owner
whose allowance a `TransferFrom` / `SendFrom` / `BurnFrom` spends (`ownersOf`, empty for every other operation: it
consented by granting the allowance), the pair contracts and the router (so also every receiver that is not itself
one of those) loses nothing in any asset -/
theorem receiver_never_loses {name : Asset → String} {w w' : World} {op : Op} {out : Out}
    (hf : FreshOK w op) (h : exec name w op = .ok (w', out)) (a : Asset) (z : Nat)
    (hz : z ≠ actorOf op) (ho : z ∉ ownersOf op) (hp : w.pair z = none) (hr : z ≠ w.router) :
    bal w a z ≤ bal w' a z :=
  Halo.Flows.never_lose hf h a z hz ho hp hr

/-- allowances of bystanders are never consumed: only the owner of an allowance (by granting or decreasing it) and the
spender it was granted to — the pair pulling the caller's own deposit, or a third party using `TransferFrom` /
`SendFrom` / `BurnFrom`, of which the owner is then a `Touched` account — change it -/
theorem allowance_frame {name : Asset → String} {w w' : World} {op : Op} {out : Out}
    (h : exec name w op = .ok (w', out)) (hf : FreshOK w op) (t o s : Nat) (T T' : Token)
    (hT : w.tok t = some T) (hT' : w'.tok t = some T') (ho : ¬ Touched w op o) : T'.allow o s = T.allow o s :=
  Halo.C07.allowance_frame h hf t o s T T' hT hT' ho

/-- allowance entries are created only by their owner's `IncreaseAllowance`: no operation creates an entry owned by
anybody but its actor (`TransferFrom` / `SendFrom` / `BurnFrom` lower an existing entry, `DecreaseAllowance` lowers
or removes one) — so an account that never submits an operation (a pair contract, an LP token's own address) never
has one, and no third party can move its tokens (`PairInv.noAllow`) -/
theorem no_new_allowance {name : Asset → String} {w w' : World} {op : Op} {out : Out}
    (h : exec name w op = .ok (w', out)) (t o s : Nat) (ho : o ≠ actorOf op)
    (hn : Halo.C07.allowOf w t o s = none) : Halo.C07.allowOf w' t o s = none :=
  Halo.Allow.exec_noNewAllow h t o s ho hn

/-- native coins are conserved: over any duplicate-free list of accounts containing everything the
operation may touch, the sum of balances is unchanged -/
theorem conserve_native {name : Asset → String} {w w' : World} {op : Op} {out : Out}
    (h : exec name w op = .ok (w', out)) (d : Nat) (L : List Nat) (hn : L.Nodup) (hL : ∀ z, Touched w op z → z ∈ L) :
    sumBal w' (.native d) L = sumBal w (.native d) L :=
  Halo.C07.conserve_native h d L hn hL

/-- cw20 tokens: balances change exactly by the change of the total supply -/
theorem conserve_token {name : Asset → String} {w w' : World} {op : Op} {out : Out}
    (h : exec name w op = .ok (w', out)) (hf : FreshOK w op) (t : Nat) (L : List Nat) (hn : L.Nodup)
    (hL : ∀ z, Touched w op z → z ∈ L) :
    sumBal w' (.token t) L + supply w t = sumBal w (.token t) L + supply w' t :=
  Halo.C07.conserve_token h hf t L hn hL

/-- the total supply of a token that is not an LP token changes only when a holder's tokens are burnt: by the holder
itself (`Burn`) or by a spender with the holder's allowance (`BurnFrom`) -/
theorem supply_non_lp {name : Asset → String} {w w' : World} {op : Op} {out : Out}
    (h : exec name w op = .ok (w', out)) (hf : FreshOK w op) (t : Nat) (hlp : ¬ IsLp w t) :
    supply w' t = supply w t ∨ (∃ s amt, op = .tokBurn t s amt) ∨ ∃ sp o amt, op = .tokBurnFrom t sp o amt :=
  Halo.C07.supply_non_lp h hf t hlp

/-- LP supply changes only through a successful provision (by the minted amount, plus the reserved
unit on the first one) … -/
theorem lp_supply_provide {w w' : World} {p : Nat} {P : PairSt} {sender : Nat} {funds : List (Nat × Nat)}
    {as0 as1 : Asset} {am0 am1 : Nat} {tol rcv : Option Nat} {share : Nat}
    (h : pairProvide w p P sender funds as0 am0 as1 am1 tol rcv = .ok (w', share))
    (h0 : P.a0 ≠ .token P.lp) (h1 : P.a1 ≠ .token P.lp) :
    supply w' P.lp = supply w P.lp + share + (if supply w P.lp = 0 then 1 else 0) :=
  Halo.C07.lp_supply_provide h h0 h1

/-- … or withdrawal (by the burned amount) -/
theorem lp_supply_withdraw {w w' : World} {p : Nat} {P : PairSt} {sender amount x0 x1 : Nat}
    (h : pairWithdraw w p P sender amount = .ok (w', x0, x1)) :
    supply w' P.lp + amount = supply w P.lp :=
  Halo.C07.lp_supply_withdraw h

end Halo.Props.C07
