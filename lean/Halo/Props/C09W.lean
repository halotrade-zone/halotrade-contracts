/-
C09 at system level: a provision or swap naming a native asset with amount `v` succeeds only if
the funds attached to that very call carry exactly `v` of that denom (absent ≙ 0); otherwise it
fails and — a transaction being atomic — nothing changes.
Environment assumption (DESIGN §6 C09): the funds of a message carry each denom at most once, as the
Cosmos SDK enforces; with a duplicated denom the contract sees only the first entry.
-/
import Halo.Proofs.C14

namespace Halo.Props.C09W

theorem provide_native_exact {w : World} {s p : Nat} {funds : List (Nat × Nat)}
    {as0 as1 : Asset} {am0 am1 : Nat} {tol rcv : Option Nat} {r : World × Out}
    (h : pairExec w s p funds (.provide as0 am0 as1 am1 tol rcv) = .ok r) :
    (∀ d, as0 = .native d → Spec.c09 d am0 funds = true) ∧ (∀ d, as1 = .native d → Spec.c09 d am1 funds = true) :=
  Halo.C14.provide_native_exact h

theorem swap_native_exact {w : World} {s p d amt : Nat} {funds : List (Nat × Nat)} {b ms to : Option Nat} {r : World × Out}
    (h : pairExec w s p funds (.swap (.native d) amt b ms to) = .ok r) : Spec.c09 d amt funds = true :=
  Halo.C14.swap_native_exact h

/-- a cw20 hook can never credit a native asset: the hook must name the sending token -/
theorem hook_never_native {w : World} {t u p amt d a : Nat} {b ms to : Option Nat} {r : World × Out} :
    tokSendPair w t u p amt (.swap (.native d) a b ms to) ≠ .ok r :=
  Halo.C14.hook_never_native

/-- otherwise the call fails and nothing changes -/
theorem mismatch_changes_nothing {name : Asset → String} {w : World} {s p d amt : Nat} {funds : List (Nat × Nat)}
    {b ms to : Option Nat} (hm : Spec.c09 d amt funds = false) :
    step name w (.pair s p funds (.swap (.native d) amt b ms to)) = w :=
  Halo.C14.mismatch_changes_nothing hm

/-- the same for a provision: if either declared asset is native and its declared amount differs from the
amount of that denom attached to the call, the transaction fails and nothing changes -/
theorem provide_mismatch_changes_nothing {name : Asset → String} {w : World} {s p : Nat} {funds : List (Nat × Nat)}
    {as0 as1 : Asset} {am0 am1 : Nat} {tol rcv : Option Nat}
    (hm : (∃ d, as0 = .native d ∧ Spec.c09 d am0 funds = false) ∨
          (∃ d, as1 = .native d ∧ Spec.c09 d am1 funds = false)) :
    step name w (.pair s p funds (.provide as0 am0 as1 am1 tol rcv)) = w :=
  Halo.C14.provide_mismatch_changes_nothing hm

end Halo.Props.C09W
