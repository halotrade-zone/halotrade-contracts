/-
C01 — a swap never lowers the reserve product nor empties a reserve (function level).

The full statement is FALSE of the code (defect D1, DESIGN §7): the gross output of `compute_swap`
is `⌊(y·a·E + ρ)/((x+a)·E)⌋`, `ρ = x·y·E mod (x+a)`, which is one above `⌊y·a/(x+a)⌋` exactly on
`inWindow`.  Proved here: the closed form, the exact characterisation of the deviation, the
property outside the window (`C01_partial…`), and the negation with concrete witnesses.
-/
import Halo.Proofs.C01

namespace Halo.Props.C01

/-- the gross output (return + commission) in closed form -/
theorem gross_closed_form {x y a c n s k : Nat}
    (h : computeSwap x y a c = .ok (n, s, k)) :
    n + k = (y * a * E + x * y * E % (x + a)) / ((x + a) * E) :=
  Halo.C01.gross_closed_form h

/-- the gross output is `⌊y·a/(x+a)⌋`, plus one exactly on the window -/
theorem gross_window {x y a c n s k : Nat}
    (h : computeSwap x y a c = .ok (n, s, k)) :
    n + k = y * a / (x + a) + (if inWindow x y a then 1 else 0) :=
  Halo.C01.gross_window h

/-- the window needs a deep pool: it is empty whenever `x + a ≤ 10^18`
(`0 < x + a` excludes the degenerate `x = a = 0`, on which `compute_swap` aborts anyway) -/
theorem window_needs_depth {x y a : Nat} (hD : 0 < x + a) (h : inWindow x y a = true) : E < x + a :=
  Halo.C01.window_needs_depth hD h

/-- C01 outside the window -/
theorem C01_partial {x y a c n s k : Nat}
    (h : computeSwap x y a c = .ok (n, s, k)) (hw : inWindow x y a = false) :
    Spec.c01 x y a n = true :=
  Halo.C01.c01_of_not_window h hw

/-- C01 for shallow pools (`x + a ≤ 10^18`), a hypothesis that needs no remainder arithmetic to check -/
theorem C01_partial_shallow {x y a c n s k : Nat}
    (h : computeSwap x y a c = .ok (n, s, k)) (hd : x + a ≤ E) :
    Spec.c01 x y a n = true :=
  Halo.C01.c01_of_shallow h hd

/-- C01 whenever a non-zero commission is charged: the commission absorbs the extra unit -/
theorem C01_partial_commission {x y a c n s k : Nat}
    (h : computeSwap x y a c = .ok (n, s, k)) (hk : 1 ≤ k) :
    Spec.c01 x y a n = true :=
  Halo.C01.c01_of_commission h hk

/-- every violating input is in the window and the deviation is exactly one unit of gross output:
this is the predicate the known finding KF-SWAP-WINDOW is matched by -/
theorem violation_is_window {x y a c n s k : Nat}
    (h : computeSwap x y a c = .ok (n, s, k)) (hv : Spec.c01 x y a n = false) :
    inWindow x y a = true ∧ n + k = y * a / (x + a) + 1 :=
  Halo.C01.violation_is_window h hv

/-- C01 in reserve form, outside the window: the product of the reserves does not decrease and the
ask reserve stays positive (`x`, `y` reserves before, `x + a`, `y − n` after) -/
theorem C01_partial_reserves {x y a c n s k : Nat}
    (h : computeSwap x y a c = .ok (n, s, k)) (hw : inWindow x y a = false) (hy : 1 ≤ y) :
    Spec.c01Reserves x y (x + a) (y - n) = true :=
  Halo.C01.c01Reserves_of_not_window h hw hy

/-- the unrestricted statement is false: the ask reserve can be emptied … -/
theorem C01_full_is_false_empties :
    computeSwap 1 1 2000000000000000000 3000000000000000 = .ok (1, 1999999999999999999, 0) ∧
    Spec.c01 1 1 2000000000000000000 1 = false := by decide

/-- … and the product can decrease, on the very input the repository's own test
`test_compute_swap_with_huge_ask_pool_and_offer_pool` pins to return 1 -/
theorem C01_full_is_false_pinned :
    computeSwap 340282366920938463463374607431 340282366920938463463374607431 1 30000000000000000
      = .ok (1, 0, 0) ∧
    Spec.c01 340282366920938463463374607431 340282366920938463463374607431 1 1 = false ∧
    Spec.c01Reserves 340282366920938463463374607431 340282366920938463463374607431
      (340282366920938463463374607431 + 1) (340282366920938463463374607431 - 1) = false := by decide

/-- non-vacuity: a successful, out-of-window swap with non-trivial output -/
example : computeSwap 1000000 2000000 1000 3000000000000000 = .ok (1993, 2, 5) ∧
    inWindow 1000000 2000000 1000 = false := by decide

end Halo.Props.C01
